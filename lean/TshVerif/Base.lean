/-
  Base definitions shared by all models: byte strings, hex coding, decimal printing; two facts about interpreters with fuel.
  Core Lean only (no Mathlib) so that the driver links as a `lean_exe`.
-/
namespace Tsh

abbrev Bytes := List UInt8

def hexDigit (n : Nat) : Char :=
  if n < 10 then Char.ofNat (48 + n) else Char.ofNat (87 + n)

def hexOfBytes (bs : Bytes) : String :=
  String.ofList (bs.flatMap fun b => [hexDigit (b.toNat / 16), hexDigit (b.toNat % 16)])

def hexVal (c : Char) : Option Nat :=
  if '0' ≤ c ∧ c ≤ '9' then some (c.toNat - 48)
  else if 'a' ≤ c ∧ c ≤ 'f' then some (c.toNat - 87)
  else if 'A' ≤ c ∧ c ≤ 'F' then some (c.toNat - 55)
  else none

def bytesOfHexChars : List Char → Option Bytes
  | [] => some []
  | [_] => none
  | a :: b :: rest => do
      let x ← hexVal a
      let y ← hexVal b
      let r ← bytesOfHexChars rest
      pure (UInt8.ofNat (x * 16 + y) :: r)

def bytesOfHex (s : String) : Option Bytes := bytesOfHexChars s.toList

def strBytes (s : String) : Bytes := s.toUTF8.toList

def bytesStr (b : Bytes) : String :=
  match String.fromUTF8? (ByteArray.mk b.toArray) with
  | some s => s
  | none => String.ofList (b.map fun x => Char.ofNat x.toNat)

def hexOfString (s : String) : String := hexOfBytes (strBytes s)

/-- ASCII byte of a character literal -/
def c2b (c : Char) : UInt8 := UInt8.ofNat c.toNat

def isDigitB (b : UInt8) : Bool := 48 ≤ b.toNat && b.toNat ≤ 57
def isAlphaB (b : UInt8) : Bool :=
  (65 ≤ b.toNat && b.toNat ≤ 90) || (97 ≤ b.toNat && b.toNat ≤ 122) || b.toNat == 95
def isIdentB (b : UInt8) : Bool := isAlphaB b || isDigitB b
def isHexB (b : UInt8) : Bool :=
  isDigitB b || (65 ≤ b.toNat && b.toNat ≤ 70) || (97 ≤ b.toNat && b.toNat ≤ 102)
def isOctB (b : UInt8) : Bool := 48 ≤ b.toNat && b.toNat ≤ 55

def hexValB (b : UInt8) : Nat :=
  if isDigitB b then b.toNat - 48
  else if 97 ≤ b.toNat then b.toNat - 87 else b.toNat - 55

/-- `l.isPrefixOf`-style test returning the remainder. -/
def stripPrefix? : Bytes → Bytes → Option Bytes
  | [], rest => some rest
  | _ :: _, [] => none
  | p :: ps, x :: xs => if p == x then stripPrefix? ps xs else none

theorem stripPrefix?_eq_some {p s r : Bytes} (h : stripPrefix? p s = some r) : s = p ++ r := by
  fun_induction stripPrefix? p s with
  | case1 rest => cases h; rfl
  | case2 => cases h
  | case3 p ps x xs hx ih => rw [beq_iff_eq.mp hx, ih h]; rfl
  | case4 => cases h

theorem stripPrefix?_append (p r : Bytes) : stripPrefix? p (p ++ r) = some r := by
  induction p with
  | nil => rfl
  | cons a p ih => rw [List.cons_append, stripPrefix?, if_pos (beq_self_eq_true a), ih]

theorem toDigits_inj {m n : Nat} (h : Nat.toDigits 10 m = Nat.toDigits 10 n) : m = n := by
  rw [← Nat.ofDigitChars_toDigits (b := 10) (n := m) (by decide) (by decide), h,
    Nat.ofDigitChars_toDigits (by decide) (by decide)]

/-- UTF-8 encoding of a code point (as Go's `string(rune)` / `utf8.AppendRune`). -/
def utf8Encode (cp : Nat) : Bytes :=
  if cp < 0x80 then [UInt8.ofNat cp]
  else if cp < 0x800 then [UInt8.ofNat (0xC0 + cp / 64), UInt8.ofNat (0x80 + cp % 64)]
  else if cp < 0x10000 then
    [UInt8.ofNat (0xE0 + cp / 4096), UInt8.ofNat (0x80 + (cp / 64) % 64), UInt8.ofNat (0x80 + cp % 64)]
  else
    [UInt8.ofNat (0xF0 + cp / 262144), UInt8.ofNat (0x80 + (cp / 4096) % 64),
     UInt8.ofNat (0x80 + (cp / 64) % 64), UInt8.ofNat (0x80 + cp % 64)]

/-- a claim about every amount of fuel from `f + 1` on, given for the successors -/
theorem from_succ {P : Nat → Prop} {f : Nat} (h : ∀ g, f ≤ g → P (g + 1)) : ∀ g, f + 1 ≤ g → P g
  | g + 1, hg => h g (Nat.le_of_succ_le_succ hg)

/-- what an interpreter with fuel answers from some amount of fuel on is unique: a relation that it computes is deterministic -/
theorem det_of_complete {α : Type} {run : Nat → Option α} {a b : α} (ha : ∃ f, ∀ g, f ≤ g → run g = some a)
    (hb : ∃ f, ∀ g, f ≤ g → run g = some b) : a = b :=
  let ⟨f1, h1⟩ := ha
  let ⟨f2, h2⟩ := hb
  Option.some.inj ((h1 _ (Nat.le_max_left f1 f2)).symm.trans (h2 _ (Nat.le_max_right f1 f2)))

end Tsh
