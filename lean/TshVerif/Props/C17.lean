/-
  C17 - write, read and exists behave as a line store over the file system.

  Proved here, about the model of transpiler.go/converters/bash (`WriteFile`, `ReadFile`, `Exists`)
  that the check ties to the code byte for byte:
    * `write_line`, `write_line_text`: the converter operation behind `write(p, s[, append])` appends exactly one
      line: `if [ "<append>" -eq "1" ]; then printf '%s\n' "<s>" >> "<p>"; else printf '%s\n' "<s>" > "<p>"; fi`
      -- one file (the same quoted path in both branches), the same quoted content in both
      branches, always followed by exactly one newline (`printf '%s\n'`), appended only when the
      flag is 1;
    * `write_path_and_content_opaque`: for literal path and content (blanks included, no `$`/backquote)
      both are read back by bash byte for byte (Lemmas/Quote.lean);
    * `read_line`, `exists_line`: `read` is `h="$(cat < "<p>")"` (quoted path, opened by the shell: the path is
      no operand of `cat`, so a leading dash or the path "-" is data), `exists` is `[ -e "<p>" ]` turned into 1/0;
    * `write_rejects_nonstring_path`, `write_rejects_nonstring_data`: a `write` whose path or content is not a
      string yields no script (an error; for the content, possibly the panic of evaluating the path first).
  What these lines do to a file system - `$( )` strips ALL trailing newlines (known finding
  read-strips-trailing-newlines), the redirections create, truncate, append - is stated in Sem/BashFs.lean and proved to
  behave as a line store in Props/C17Sem.lean; that /bin/bash does what Sem/BashFs says is decided by the execution oracle.
-/
import TshVerif.Lemmas.Quote
namespace Tsh.C17
open Tsh Tsh.Tr Tsh.Bash

/-- **`write` is one line with one path and one content.** -/
theorem write_line (path content append : String) (s : St) :
    conv.writeFile path content append s = .ok ((), { s with code := .writeFile append content path :: s.code }) := rfl

theorem write_line_text (a c p : String) :
    Line.render (.writeFile a c p) =
      "if [ \"" ++ a ++ "\" -eq \"1\" ]; then printf '%s\\n' \"" ++ c ++ "\" >> \"" ++ p ++ "\"; else printf '%s\\n' \"" ++ c ++ "\" > \"" ++ p ++ "\"; fi" := rfl

theorem write_path_and_content_opaque (p c : String) (rest : List Char) (hp : plainString p = true) (hc : plainString c = true) :
    dqScan [] ((stringToString p).toList ++ '"' :: rest) = .ok p.toList rest ∧
    dqScan [] ((stringToString c).toList ++ '"' :: rest) = .ok c.toList rest :=
  ⟨stringToString_roundtrip p rest hp, stringToString_roundtrip c rest hc⟩

theorem write_rejects_nonstring_path (path data : Expr) (append : Option Expr) (s : St)
    (h : (Expr.valueType path).isString = false) :
    ∃ m, evalStmt conv (.expr (.write path data append)) s = .error m := by
  unfold evalStmt
  simp [h, Tr.fail]

theorem write_rejects_nonstring_data (path data : Expr) (append : Option Expr) (s : St)
    (hp : (Expr.valueType path).isString = true) (h : (Expr.valueType data).isString = false) :
    (∃ m, evalStmt conv (.expr (.write path data append)) s = .error m) ∨
    (∃ m, evalStmt conv (.expr (.write path data append)) s = .panic m) := by
  unfold evalStmt
  simp only [hp, Bool.not_true, Bool.false_eq_true, if_false]
  cases hr : evalExpr conv path true s with
  | ok r => left; simp [bind, hr, h, Tr.fail]
  | error m => left; exact ⟨m, by simp [bind, hr]⟩
  | panic m => right; exact ⟨m, by simp [bind, hr]⟩

/-- **`read`**: one assignment of `$(cat < "<path>")` to a fresh helper -/
theorem read_line (path : String) (s : St) :
    readFile path s = .ok (varEvalString s s!"_h{s.varCounter}" false,
      { s with varCounter := s.varCounter + 1,
               code := .assign (varName s s!"_h{s.varCounter}" false) s!"$(cat < \"{path}\")" :: s.code }) := rfl

/-- **`exists`**: `[ -e "<path>" ]` turned into 1 / 0 -/
theorem exists_line (path : String) (s : St) :
    existsOp path s = .ok (varEvalString s s!"_h{s.varCounter}" false,
      { s with varCounter := s.varCounter + 1,
               code := .assignTest (varName s s!"_h{s.varCounter}" false) (.exists_ path) "1" "0" :: s.code }) := rfl

end Tsh.C17
