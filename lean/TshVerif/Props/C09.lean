/-
  C09 - Multi-file programs link correctly and unused-function removal is safe.

  About the call-graph part of the parser model (Model/Parser.lean: `mergeUsed` = the merge loop of
  evaluateImports, `getUsedFuncs`, `cleanProgram` = removal of unused functions; the model is tied to
  parser.Parse by AST correspondence on generated import graphs in every run):
    * `merge_keeps_own_edges`, `merge_takes_all_imported_edges`: merging the call graph of an imported
      file never loses an edge -- neither of the importing file nor of ANY entry of the imported graph
      (a live function can never look dead because of an incomplete merge);
    * `reachable_functions_are_collected`: whenever `getUsedFuncs` (a work list that looks at every function
      once) returns, its result contains every function reachable in the call graph from the start key (the
      top-level code is the key "");
    * `removal_keeps_every_reachable_function`: `cleanProgram` keeps every function definition that top
      level code can reach through calls;
    * `removal_only_drops_functions`: and changes nothing else: the result is a sublist of the body with all
      non-function statements kept.
  That every call is recorded in the graph (`recordCall` at each call site), the alias/prefix resolution
  and definedness-before-use in the emitted scripts are decided by the import-graph oracle of the check.
-/
import TshVerif.Lemmas.Assoc
import TshVerif.Sem2.Src
namespace Tsh.C09
open Tsh Tsh.Parser
open Tsh.Sem2.Src (cleanP)

/-- `b` is a callee recorded for `a` -/
def Edge (used : List (String × List String)) (a b : String) : Prop := ∃ cs, assocGet used a = some cs ∧ b ∈ cs

theorem foldl_addUnless_prefix {α : Type} (p : List α → α → Bool) (cs acc : List α) :
    ∃ extra, cs.foldl (fun l c => if p l c then l else l ++ [c]) acc = acc ++ extra := by
  induction cs generalizing acc with
  | nil => exact ⟨[], (List.append_nil _).symm⟩
  | cons c cs ih =>
    obtain ⟨e, he⟩ := ih (if p acc c then acc else acc ++ [c])
    rw [List.foldl_cons, he]
    cases p acc c
    · exact ⟨c :: e, List.append_assoc ..⟩
    · exact ⟨e, rfl⟩

theorem mem_foldl_addUnless {α : Type} (p : List α → α → Bool) (cs acc : List α) (x : α)
    (hp : ∀ l c, acc ⊆ l → p l c = true → c ∈ l) (h : x ∈ acc ∨ x ∈ cs) :
    x ∈ cs.foldl (fun l c => if p l c then l else l ++ [c]) acc := by
  induction cs generalizing acc with
  | nil => exact h.elim id nofun
  | cons c cs ih =>
    rw [List.foldl_cons]
    have hsub : acc ⊆ (if p acc c then acc else acc ++ [c]) := by
      split
      · exact fun _ h => h
      · exact List.subset_append_left _ _
    refine ih _ (fun l d hl => hp l d fun _ hy => hl (hsub hy)) ?_
    rcases h with h | h
    · exact .inl (hsub h)
    · rcases List.mem_cons.mp h with rfl | h
      · refine .inl ?_
        split
        · next hc => exact hp acc x (fun _ h => h) hc
        · exact List.mem_append_right _ List.mem_cons_self
      · exact .inr h

def addNew (found : List String) (callees : List String) : List String :=
  callees.foldl (fun l c => if found.contains c then l else l ++ [c]) found

theorem mem_addNew (found callees : List String) (x : String) (h : x ∈ found ∨ x ∈ callees) : x ∈ addNew found callees :=
  mem_foldl_addUnless (fun _ c => found.contains c) callees found x (fun _ _ hl hc => hl (List.contains_iff_mem.mp hc)) h

def mergeStep (acc : List (String × List String)) (e : String × List String) : List (String × List String) :=
  match assocGet acc e.1 with
  | none => acc ++ [(e.1, e.2)]
  | some found => assocSet acc e.1 (addNew found e.2)

theorem mergeUsed_eq (mine imported : List (String × List String)) : mergeUsed mine imported = imported.foldl mergeStep mine := by
  unfold mergeUsed
  congr 1

theorem mergeStep_keeps (acc : List (String × List String)) (e : String × List String) (a b : String) (h : Edge acc a b) :
    Edge (mergeStep acc e) a b := by
  obtain ⟨cs, hg, hb⟩ := h
  unfold mergeStep
  cases hf : assocGet acc e.1 with
  | none => exact ⟨cs, by rw [assocGet_append, hg]; rfl, hb⟩
  | some found =>
    by_cases ha : a = e.1
    · subst ha
      cases hg.symm.trans hf
      exact ⟨_, assocGet_set_same _ _ _, mem_addNew _ _ _ (.inl hb)⟩
    · exact ⟨cs, by rw [assocGet_set_other _ _ _ _ ha]; exact hg, hb⟩

theorem mergeStep_adds (acc : List (String × List String)) (e : String × List String) (c : String) (h : c ∈ e.2) :
    Edge (mergeStep acc e) e.1 c := by
  unfold mergeStep
  cases hf : assocGet acc e.1 with
  | none => exact ⟨e.2, by rw [assocGet_append, hf]; simp [assocGet], h⟩
  | some found => exact ⟨_, assocGet_set_same _ _ _, mem_addNew _ _ _ (.inr h)⟩

theorem foldl_mergeStep_keeps (imported acc : List (String × List String)) (a b : String) (h : Edge acc a b) :
    Edge (imported.foldl mergeStep acc) a b := by
  induction imported generalizing acc with
  | nil => exact h
  | cons e rest ih => exact ih _ (mergeStep_keeps acc e a b h)

/-- **The merge keeps every edge of the importing file.** -/
theorem merge_keeps_own_edges (mine imported : List (String × List String)) (a b : String) (h : Edge mine a b) :
    Edge (mergeUsed mine imported) a b := by
  rw [mergeUsed_eq]; exact foldl_mergeStep_keeps imported mine a b h

/-- **The merge takes over every edge of the imported graph** (of every entry, not only the first per key). -/
theorem merge_takes_all_imported_edges : ∀ (imported mine : List (String × List String)) (e : String × List String) (c : String),
    e ∈ imported → c ∈ e.2 → Edge (mergeUsed mine imported) e.1 c := by
  intro imported mine e c he hc
  rw [mergeUsed_eq]
  induction imported generalizing mine with
  | nil => cases he
  | cons x rest ih =>
    rcases List.mem_cons.mp he with rfl | he
    · exact foldl_mergeStep_keeps rest _ _ _ (mergeStep_adds mine e c hc)
    · exact ih _ he

inductive Reach (used : List (String × List String)) : String → String → Prop
  | edge {a b} : Edge used a b → Reach used a b
  | step {a b c} : Edge used a b → Reach used b c → Reach used a c

theorem addNewFuncs_prefix (fs acc : List String) : ∃ extra, addNewFuncs acc fs = acc ++ extra :=
  foldl_addUnless_prefix (fun a x => a.contains x) fs acc

theorem mem_addNewFuncs (fs acc : List String) (x : String) (h : x ∈ acc ∨ x ∈ fs) : x ∈ addNewFuncs acc fs :=
  mem_foldl_addUnless (fun a x => a.contains x) fs acc x (fun _ _ _ hc => List.contains_iff_mem.mp hc) h

/-- invariant of the work list: the elements before index `i` are processed -/
def Processed (used : List (String × List String)) (i : Nat) (acc : List String) : Prop :=
  ∀ j (hj : j < acc.length), j < i → ∀ c, Edge used acc[j] c → c ∈ acc

theorem workList_spec (used : List (String × List String)) (fuel i : Nat) (acc r : List String)
    (h : workList used fuel i acc = some r) (hp : Processed used i acc) :
    (∀ x ∈ acc, x ∈ r) ∧ (∀ a ∈ r, ∀ c, Edge used a c → c ∈ r) := by
  fun_induction workList used fuel i acc with
  | case1 i acc => cases h
  | case2 fuel i acc hlt ih =>
    obtain ⟨extra, he⟩ := addNewFuncs_prefix ((assocGet used acc[i]).getD []) acc
    refine (ih h fun j hj hji c hc => ?_).imp_left fun h1 x hx => h1 x (mem_addNewFuncs _ _ _ (.inl hx))
    -- positions up to `i` are those of `acc`: the list was only appended to
    have hjl : j < acc.length := Nat.lt_of_lt_of_le hji hlt
    rw [List.getElem_of_eq he, List.getElem_append_left hjl] at hc
    rcases Nat.lt_succ_iff_lt_or_eq.mp hji with hj' | rfl
    · exact mem_addNewFuncs _ _ _ (.inl (hp j hjl hj' c hc))
    · obtain ⟨cs, hcs, hm⟩ := hc
      exact mem_addNewFuncs _ _ _ (.inr (by rw [hcs]; exact hm))
  | case3 fuel i acc hlt =>
    cases h
    refine ⟨fun x hx => hx, fun a ha c hc => ?_⟩
    obtain ⟨j, hj, rfl⟩ := List.mem_iff_getElem.mp ha
    exact hp j hj (Nat.lt_of_lt_of_le hj (Nat.le_of_not_lt hlt)) c hc

theorem Reach.mem_of_closed {used : List (String × List String)} {a x : String} {r : List String} (hx : Reach used a x)
    (ha : ∀ c, Edge used a c → c ∈ r) (hcl : ∀ b ∈ r, ∀ c, Edge used b c → c ∈ r) : x ∈ r := by
  induction hx with
  | edge e => exact ha _ e
  | step e _ ih => exact ih (hcl _ (ha _ e))

/-- **Everything reachable is collected.** -/
theorem reachable_functions_are_collected (used : List (String × List String)) (start : String) (r : List String)
    (h : getUsedFuncs used start = some r) : ∀ x, Reach used start x → x ∈ r := by
  intro x hx
  unfold getUsedFuncs at h
  split at h
  · next hg => exact hx.mem_of_closed (fun c ⟨cs, he, _⟩ => nomatch hg.symm.trans he) (by cases h; nofun)
  · next callees hg =>
    obtain ⟨h1, h2⟩ := workList_spec used _ 0 _ r h fun j _ hj => absurd hj (Nat.not_lt_zero j)
    refine hx.mem_of_closed (fun c ⟨cs, he, hm⟩ => h1 c (mem_addNewFuncs _ _ _ (.inr ?_))) h2
    cases hg.symm.trans he
    exact hm

theorem cleanProgram_eq {used : List (String × List String)} {body out : List Stmt} (h : cleanProgram used body = some out) :
    ∃ keep, getUsedFuncs used "" = some keep ∧ out = cleanP keep body := by
  unfold cleanProgram at h
  cases hk : getUsedFuncs used "" with
  | none => rw [hk] at h; cases h
  | some keep =>
    rw [hk] at h
    cases h
    exact ⟨keep, rfl, List.filter_congr fun st _ => by cases st <;> rfl⟩

/-- **Removal of unused functions is safe**: every function definition that top-level code can reach
    through recorded calls is still in the program. -/
theorem removal_keeps_every_reachable_function (used : List (String × List String)) (body out : List Stmt)
    (h : cleanProgram used body = some out) (name : String) (pub : Bool) (rets : List ValueType) (params : List Var) (fb : List Stmt)
    (hin : Stmt.funcDef name pub rets params fb ∈ body) (hr : Reach used "" name) :
    Stmt.funcDef name pub rets params fb ∈ out := by
  obtain ⟨keep, hk, rfl⟩ := cleanProgram_eq h
  exact List.mem_filter.mpr ⟨hin, List.contains_iff_mem.mpr (reachable_functions_are_collected used "" keep hk name hr)⟩

/-- removal drops nothing but function definitions, and keeps the order of what it keeps -/
theorem removal_only_drops_functions (used : List (String × List String)) (body out : List Stmt)
    (h : cleanProgram used body = some out) :
    out.Sublist body ∧ ∀ st ∈ body, (∀ n p r ps b, st ≠ .funcDef n p r ps b) → st ∈ out := by
  obtain ⟨keep, _, rfl⟩ := cleanProgram_eq h
  refine ⟨List.filter_sublist, ?_⟩
  intro st hst hnf
  refine List.mem_filter.mpr ⟨hst, ?_⟩
  cases st with
  | funcDef n p r ps b => exact absurd rfl (hnf n p r ps b)
  | _ => rfl

end Tsh.C09
