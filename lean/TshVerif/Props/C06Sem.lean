/-
  C06, the parser half - ACCEPTED PROGRAMS ARE TYPED.

  `Props/C06.lean` proves that typed ASTs are translated by both emitters (so acceptance is decided by the parser
  alone).  This file proves the other half about the model of the parser (Model/Parser.lean, every `evaluateX` of
  parser.go; tied to the code by the AST correspondence of every run): whatever files, import graphs and token
  sequences it is given, an AST it returns satisfies `PT.program` (Model/PTyped.lean), i.e.

    * every operand of an arithmetic / comparison / logical / negation operator has the type the operator requires and
      both sides agree; conditions of if / else-if / for are bool; case expressions have the type of the switch tag;
      indices and substring bounds are int, subscripted values are slices or strings; slice elements and element
      assignments have the element type; `len`, `itoa`, `exists`, `read`, `input`, `copy`, `write` get the argument
      types of the README; `!` only on bool;
    * a defined or assigned variable has the type of its value (one value per variable, or exactly the values of ONE
      multi-value call), increments only on int, compound assignment only with an operator of the type;
    * a value-returning function ends in a `return` of exactly the declared types (`funcBodyCheck`), parameter and
      return types are bool / int / string or slices of them; only calls are expression statements;
    * no expression of an accepted program has a type outside bool, int, string, their slices, "no value" and
      "several values" - and the last two never as a slice.

  What is NOT in `PT` because the parser does not check it (both are visible in the statement, not hidden):
  `return` values inside nested blocks are not compared with the declared types (known finding
  nested-return-unchecked), and an argument's type is compared with the parameter's type where the call is parsed -
  the AST does not carry parameter types, so `PT` only keeps "typed and not void" for arguments.

  `accepted_strict_programs_are_translated` then closes the chain: an accepted program that does not use the two
  constructs the parser accepts and the emitters do not take (`PT.strictSs`: ordering comparison of strings; a program
  call or multi-value call in a single-value position) is translated by the Bash emitter - a script, no error, no
  panic.  The checker `PT.program` and `PT.strictSs` are also evaluated on every AST the REAL parser returns.
-/
import TshVerif.Lemmas.ParserTypedBridge
import TshVerif.Lemmas.ParserTypedProg
import TshVerif.Lemmas.ParserSigProg
import TshVerif.Lemmas.ParserDefs
import TshVerif.Lemmas.BashTotal
namespace Tsh.C06
open Tsh Tsh.Tr Tsh.Parser

/-- **Every program the parser accepts is typed** (all file systems, all import graphs, all sources). -/
theorem accepted_programs_are_typed (fs : FileSys) (main : String) (p : Parsed) (s : PSt)
    (h : Parser.parse fs main = .ok p s) : PT.program p.body = true :=
  ((parse_good fs main).ok h).stmts

/-- the same for every imported file, at any depth of the import graph -/
theorem accepted_files_are_typed (depth : Nat) (fs : FileSys) (path : String) (imported : Bool) (importing : List String)
    (p : Parsed) (s : PSt) (h : parseFile depth fs path imported importing = .ok p s) : PT.program p.body = true :=
  ((fileGood_all depth fs path imported importing).ok h).stmts

/-- **The parser never reaches one of its crash sites**: the places where parser.go would index a slice out of range or
    use a result that is not there (argument lists of builtins after their arity check, the parameter that belongs to an
    argument, the first name of a definition, the value of a compound assignment) - for all inputs. -/
theorem parser_never_panics (fs : FileSys) (main : String) : Parser.parse fs main ≠ .panic :=
  (parse_good fs main).np

/-- every expression the expression parser returns is typed and has a type of the language -/
theorem parsed_expressions_are_typed (fuel : Nat) (ctx : Ctx) (hc : CtxOK ctx) (s s' : PSt) (e : Expr)
    (h : evalExpression fuel ctx s = .ok e s') : PT.expr e = true ∧ PT.known (Expr.valueType e) = true :=
  have he := ((exprIH_all fuel).expression ctx hc).ok s e s' h
  ⟨he, expr_known e he⟩

/-- **Calls agree with the signatures of the functions they name** (the part of the typing of calls that `PT` cannot
    state, because a call node keeps no parameter types): in the program the parser builds from a main file - before the
    unused functions are removed - every call in the file's OWN statements names a function that is declared, by the imported
    statements in front of them or earlier in the file itself, with exactly the arguments' types as parameter types (so: the
    right number of arguments, each of the parameter's type) and with the return types the call node is typed with; a
    function is not known inside its own body. -/
theorem calls_agree_with_signatures (fs : FileSys) (main : String) (raw : Parsed) (s : PSt)
    (h : parseRaw fs main = .ok raw s) :
    ∃ imported own, raw.body = imported ++ own ∧ PT.sigSs (PT.declareAll [] imported) own = true := by
  obtain ⟨fuel, s0, he⟩ := parseRaw_of_ok h
  exact evalProgram_sig _ _ _ _ _ _ _ _ he

/-- the same for every statement the statement parser returns, in any context whose functions have their signatures in `F` -/
theorem parsed_statement_calls_agree (F : List PT.Sig) (fuel : Nat) (ctx : Ctx) (hc : FuncsIn F ctx) (s s' : PSt) (st : Stmt)
    (h : evalStatement fuel ctx s = .ok st s') : PT.sigS F st = true :=
  (sigSIH_all fuel).statement F ctx hc s st s' h

/-- the parser's guarantee implies the emitters' discipline, except for the two constructs that `PT.strictSs` excludes -/
theorem parser_typed_and_strict_is_typed (p : Program) (h : PT.program p = true) (hs : PT.strictSs p = true) :
    typedProgram p = true :=
  typedSs_of_pt p h hs

/-- **Accepted programs are translated** (Bash target): acceptance is decided by the parser alone. -/
theorem accepted_strict_programs_are_translated (fs : FileSys) (main : String) (p : Parsed) (s : PSt)
    (h : Parser.parse fs main = .ok p s) (hs : PT.strictSs p.body = true) : ∃ ls, Bash.compile p.body = .ok ls :=
  Bash.compile_total p.body (parser_typed_and_strict_is_typed p.body (accepted_programs_are_typed fs main p s h) hs)

/-! ### the statement is not vacuous, and the two excluded constructs are real -/

private def fsOf (src : String) : FileSys := { files := [("/v/main.tsh", src.toUTF8.toList, "h0000000")], exeDir := "/x" }

private def accepted (src : String) : Option Program :=
  match Parser.parse (fsOf src) "/v/main.tsh" with
  | .ok p _ => some p.body
  | _ => none

private def sampleSrc : String :=
  "var xs = []int{1, 2}\nfunc f(a int, s string) (int, string) {\n\tif a > 1 {\n\t\treturn a, s\n\t}\n\treturn a + 1, s + \"x\"\n}\n" ++
  "n, t := f(len(xs), \"q\")\nfor i, v := range xs {\n\txs[i] = v * n\n}\nswitch t {\ncase \"qx\":\n\tprint(xs[0], itoa(n))\n}\n"

-- the parser model accepts a program with slices, a multi-value function, range loop and switch; it is typed and strict
#guard (accepted sampleSrc).isSome
#guard ((accepted sampleSrc).map PT.program) == some true
#guard ((accepted sampleSrc).map PT.strictSs) == some true
-- ill-typed programs are rejected by the model (operands, condition, assignment, element, return, argument)
#guard (accepted "x := 1 + \"a\"\n").isNone
#guard (accepted "if 1 {\n}\n").isNone
#guard (accepted "x := 1\nx = \"s\"\n").isNone
#guard (accepted "xs := []int{\"a\"}\n").isNone
#guard (accepted "func f() int {\n\treturn \"a\"\n}\n").isNone
#guard (accepted "func f(a int) {\n}\nf(\"s\")\n").isNone
-- the two constructs the parser accepts beyond the emitters' discipline: typed in the sense of `PT`, not strict
#guard ((accepted "b := \"a\" < \"b\"\n").map fun p => (PT.program p, PT.strictSs p, typedProgram p)) == some (true, false, false)
#guard ((accepted "a, b := @x(), @y()\n").map fun p => (PT.program p, PT.strictSs p, typedProgram p)) == some (true, false, false)
-- a function without return value has no value, in brackets either
#guard (accepted "func f() {\n}\nx := (f())\n").isNone
#guard (accepted "func f() {\n}\nvar x = ((f()))\n").isNone
#guard (accepted "func f() {\n}\nfunc g() int {\n\treturn (f())\n}\n").isNone
#guard (accepted "func m() (int, int) {\n\treturn 1, 2\n}\nx := (m())\n").isNone
#guard (accepted "func m() (int, int) {\n\treturn 1, 2\n}\na, b := (m())\n").isNone
#guard (accepted "func m() (int, int) {\n\treturn 1, 2\n}\na, b := m()\n").isSome
-- calls: wrong number or types of arguments are rejected; the accepted sample agrees with its signatures
#guard (accepted "func f(a int, b string) int {\n\treturn a\n}\nx := f(1)\n").isNone
#guard (accepted "func f(a int, b string) int {\n\treturn a\n}\nx := f(1, 2)\n").isNone
#guard (accepted "func f(a int, b string) int {\n\treturn a\n}\nx := f(1, \"s\", 3)\n").isNone
#guard (accepted "func f() int {\n\treturn f()\n}\n").isNone
#guard ((accepted sampleSrc).map (PT.sigSs [])) == some true
-- the check the parser does not make: a `return` in a nested block with a value of the wrong type (known finding)
#guard ((accepted "func f() int {\n\tif true {\n\t\treturn \"s\"\n\t}\n\treturn 1\n}\n").map PT.program) == some true

/-- **A definition never changes the type of a variable that exists on the same level** (fix 4a3f869): whenever the definition
    parser returns a statement, in any context, a written name under which the parser's lookup finds a variable `w` of the same
    level (global flag) that has a type is defined with exactly `w`'s type - in `a, b := v1, v2` the value for an existing `a`
    must have `a`'s type, as for a plain assignment.  (A name found on ANOTHER level - a global seen from a function body - is
    a new variable of the function and may have any type.) -/
theorem definition_keeps_the_type_of_an_existing_variable (fuel : Nat) (ctx : Ctx) (s s' : PSt) (st : Stmt)
    (h : evalVarDefinition fuel ctx s = .ok st s') :
    ∃ (pfx : String) (names : List Tok), (defVars st).length = names.length ∧
      ∀ i (h1 : i < names.length) (h2 : i < (defVars st).length) (w : Var),
        ctx.findVar names[i].val pfx ctx.global = some w → w.global = ctx.global → w.vt.dt ≠ .unknown →
        (defVars st)[i].vt = w.vt := by
  obtain ⟨pfx, names, short, _, h2, h3, _⟩ := def_varDefinition fuel ctx s st s' h
  exact ⟨pfx, names, h2, fun i a b w hw hg hu => (h3 i a b).2.2 w hw hg hu⟩

-- the defect the theorem excludes, and its neighbours
#guard (accepted "a := 1\na, b := \"s\", 2\n").isNone
#guard (accepted "a := 1\na, b := 5, 2\nprint(a + 1, b)\n").isSome
#guard (accepted "func two() (string, int) {\n\treturn \"x\", 1\n}\na := 1\na, b := two()\n").isNone
#guard (accepted "func two() (int, int) {\n\treturn 2, 1\n}\na := 1\na, b := two()\nprint(a, b)\n").isSome
#guard (accepted "g := 1\nfunc f() {\n\tg, h := \"s\", 3\n\tprint(g + \"x\", h)\n}\nf()\nprint(g + 1)\n").isSome

end Tsh.C06
