/-
  C16 - Every emitted script is well-formed for its interpreter.

  Proved here (bash part), about the model of transpiler.go + converters/bash/converter.go that the
  check ties to the code byte for byte, for EVERY well-formed AST:
    * `script_shape`: after the shebang and the helper routines the script is a sequence of the grammar
      `Shape .blk` (Lemmas/BashShape.lean): every `if … then` has a NON-EMPTY body, optional
      `elif`/`else` parts with non-empty bodies and its own `fi`; every loop is `_fv<n>=`,
      `while true; do`, an optional guarded increment with a non-empty body, the condition
      statements, the exit test, a non-empty body, `done`; every function is `name() {`, the
      parameter copies, a non-empty body, `}`  (an empty compound command is what `bash -n` rejects;
      an empty block gets the `:` no-op);
    * `script_balanced`: the depth changes of its lines sum to 0 (as many openers as closers);
    * `bodies_start_with_a_command`: a body never starts with a closer;
    * `bash_helpers_defined_when_called` (every program, no hypothesis): a script that calls `_sah`, `_sch` or
      `_ssh` contains the definition of that routine.
  Batch, for every program: as many block-opening as block-closing lines, empty construct stacks
  at the end, no construct label defined twice, every construct jump has its label.  Inclusion of the Batch helper routines,
  the labels of functions and `bash -n` itself are decided by the structural oracles of the check.
-/
import TshVerif.Props.C05
import TshVerif.Lemmas.BashStmt
import TshVerif.Lemmas.BashHelpers
import TshVerif.Lemmas.BatchLabels
namespace Tsh.C16
open Tsh Tsh.Tr Tsh.Bash

/-- **The script follows the block grammar.** -/
theorem script_shape (p : Program) (hw : wfStmts p = true) (ls : List Line) (h : compile p = .ok ls) :
    ∃ (st : St) (body : List Line) (n : Nat), ls = .shebang :: (helperLines st ++ body) ∧ Shape .blk 0 n body :=
  Bash.compile_shape p hw ls h

/-- **As many openers as closers** (that they nest is `script_shape`). -/
theorem script_balanced (p : Program) (hw : wfStmts p = true) (ls : List Line) (h : compile p = .ok ls) :
    ∃ (st : St) (body : List Line), ls = .shebang :: (helperLines st ++ body) ∧ depthSum body = 0 := by
  obtain ⟨st, body, n, hl, hs⟩ := Bash.compile_shape p hw ls h
  exact ⟨st, body, hl, hs.balanced⟩

/-- a command sequence of the grammar never starts with `fi`, `else`, `elif`, `done` or `}` -/
theorem bodies_start_with_a_command {lo hi : Nat} {l : Line} {rest : List Line} (h : Shape .blk lo hi (l :: rest)) :
    l.isCloser = false := h.head_not_closer

/-- an empty block is emitted as the no-op, never as nothing -/
theorem empty_block_is_nop (s : St) : evalBlock conv [] s = .ok ((), { s with code := .nop :: s.code }) := by
  unfold evalBlock; rfl

/-- the helper routines themselves call no helper routine -/
theorem helperLines_needsNone (st : St) : ∀ l ∈ helperLines st, l.needsNone = true := by
  have e : ∀ (b : Bool) (x : List Line), x.all Line.needsNone = true → (if b then x else []).all Line.needsNone = true := by
    intro b x h; cases b; rfl; exact h
  refine List.all_eq_true.mp ?_
  unfold helperLines
  rw [List.all_append, List.all_append, e _ _ rfl, e _ _ rfl, e _ _ rfl]; rfl

theorem routine_defined (s : St) :
    (s.sahReq = true → Line.funcStart "_sah" ∈ dumpLines s) ∧ (s.schReq = true → Line.funcStart "_sch" ∈ dumpLines s) ∧
    (s.sshReq = true → Line.funcStart "_ssh" ∈ dumpLines s) := by
  unfold dumpLines helperLines
  refine ⟨fun h => ?_, fun h => ?_, fun h => ?_⟩ <;> rw [if_pos h] <;> refine List.mem_append_left _ (List.mem_append_right _ ?_)
  · exact List.mem_append_left _ (List.mem_append_left _ (.tail _ (.head _)))
  · exact List.mem_append_left _ (List.mem_append_right _ (.tail _ (.head _)))
  · exact List.mem_append_right _ (.tail _ (.head _))

/-- **Bash: every helper routine that is called is defined.** -/
theorem bash_helpers_defined_when_called (p : Program) (ls : List Line) (h : compile p = .ok ls) :
    ((∃ l ∈ ls, l.needsSah = true) → Line.funcStart "_sah" ∈ ls) ∧
    ((∃ l ∈ ls, l.needsSch = true) → Line.funcStart "_sch" ∈ ls) ∧
    ((∃ l ∈ ls, l.needsSsh = true) → Line.funcStart "_ssh" ∈ ls) := by
  obtain ⟨s, h2, rfl⟩ := compile_ok h
  have hs := evalStmts_hok p _ _ _ h2
  obtain ⟨new, hc, hreq⟩ := hs.code
  have key : ∀ l ∈ dumpLines s, l.flagged s := by
    intro l hl
    simp only [dumpLines, List.mem_append, List.mem_reverse] at hl
    rcases hl with (hl | hl) | hl
    · rw [hs.start] at hl; cases List.mem_singleton.mp hl; exact Line.flagged_of_needsNone rfl s
    · exact Line.flagged_of_needsNone (helperLines_needsNone s l hl) s
    · rw [hc, List.append_nil] at hl; exact hreq l hl
  exact ⟨fun ⟨l, hl, hn⟩ => (routine_defined s).1 ((key l hl).1 hn), fun ⟨l, hl, hn⟩ => (routine_defined s).2.1 ((key l hl).2.1 hn),
    fun ⟨l, hl, hn⟩ => (routine_defined s).2.2 ((key l hl).2.2 hn)⟩

/-- **Batch: as many block-opening as block-closing lines** in every emitted script, helper routines included
    (C05.parentheses_balanced); nothing is stated about the prefixes of the script. -/
theorem batch_parentheses_balanced (p : Program) (ls : List Batch.BLine) (h : Batch.compile p = .ok ls) : Batch.sumD ls = 0 :=
  C05.parentheses_balanced p ls h

/-- **Batch: no construct is left open** when the whole program has been emitted. -/
theorem batch_no_construct_left_open (p : Program) (u : Unit) (s : Batch.St) (h : evalProgram Batch.conv p {} = .ok (u, s)) :
    s.ifs = [] ∧ s.fors = [] ∧ s.endLabels = [] ∧ s.funcs = [] :=
  C05.construct_stacks_empty_at_end p u s h

/-!
`if`, `else`, loops, `break` and `continue` are all translated into labels (`:_i3`, `:_f2`, `:_e2`) and `goto`s.
`cmd.exe` resolves a `goto` by scanning the file for the label, so a label defined twice or never defined
does not fail when the script is loaded; it silently jumps to the wrong place or ends the script. -/

/-- **Batch: no construct label (`:_iN`, `:_fN`, `:_eN`) is defined twice.** -/
theorem batch_construct_labels_unique (p : Program) (ls : List Batch.BLine) (h : Batch.compile p = .ok ls) :
    (ls.filterMap Batch.clab).Nodup := by
  obtain ⟨s, hs, rfl⟩ := Batch.compile_ok h
  obtain ⟨h1, _, h3, _⟩ := batch_no_construct_left_open p () s hs
  exact ((Batch.program_linv p () s hs).dump h1 h3).1

/-- **Batch: every construct jump has its label**, defined by some line of the same script. -/
theorem batch_construct_jumps_resolve (p : Program) (ls : List Batch.BLine) (h : Batch.compile p = .ok ls) :
    ∀ t ∈ ls.filterMap Batch.cgo, t ∈ ls.filterMap Batch.clab := by
  obtain ⟨s, hs, rfl⟩ := Batch.compile_ok h
  obtain ⟨h1, _, h3, _⟩ := batch_no_construct_left_open p () s hs
  exact ((Batch.program_linv p () s hs).dump h1 h3).2.1

/-- what those two lists are in the text of the script -/
example : (Batch.BLine.clabel "_i3").render = ":_i3" ∧ (Batch.BLine.cgoto "_e2").render = "goto :_e2" := ⟨rfl, rfl⟩

end Tsh.C16
