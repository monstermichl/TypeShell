/-
  C13 - Transpilation is total: a script or an error, never a crash or a hang.
  Proved here: the lexer part (for every byte string the lexer model returns tokens or an error within
  `length src` iterations; every iteration consumes input), the shape of its result (the token list
  always ends in EOF, so the parser's look-ahead never runs past a missing end marker), and that
  every error message literal of the code base is non-empty (re-extracted from the source).
  Emitters: on every typed AST the bash emitter model, on every typed and well-placed AST the Batch emitter
  model returns a script (no error, no out-of-range access).  The parser part: of the parser model, Props/C13Sem.lean (no
  `panic`); of parser.go, the error-class correspondence and the crash/hang oracle of the check (DESIGN.md, C13).
-/
import TshVerif.Props.C11
import TshVerif.Generated.Facts
import TshVerif.Lemmas.BashTotal
import TshVerif.Lemmas.BatchTotal
namespace Tsh.C13
open Tsh Tsh.Lexer Tsh.LexTables

/-- **The lexer terminates on every input.** -/
theorem lex_never_diverges (src : Bytes) : tokenize src ≠ .diverge := (C11.lex_total src).2

theorem lex_tokens_or_error (src : Bytes) : (∃ ts, tokenize src = .ok ts) ∨ tokenize src = .err := by
  cases h : tokenize src with
  | ok ts => exact Or.inl ⟨ts, rfl⟩
  | err => exact Or.inr rfl
  | diverge => exact absurd h (lex_never_diverges src)

/-- every iteration of the lexer loop consumes at least one byte (the termination measure) -/
theorem lex_progress {last : Nat} {s : Bytes} {ty : Nat} {val rest : Bytes}
    (h : step last s = .tok ty val rest) : rest.length < s.length := C11.step_nonempty h

/-- the last token of a successful lexer run is EOF -/
theorem tokens_end_with_eof (src : Bytes) (ts : List Token) (h : tokenize src = .ok ts) :
    ∃ (init : List Token) (p : Nat × Nat), ts = init ++ [{ ty := TT_EOF, val := [], row := p.1, col := p.2 }] :=
  let ⟨_, pos, _, e⟩ := tokenize_eq_ok h; ⟨_, pos, e⟩

/-- **An error is never empty**: every message / format literal passed to `errors.New`, `fmt.Errorf`,
    `atError`, `expectedError`, `expectedKeywordError` anywhere in the non-test source is non-empty
    (lengths re-extracted on every run). -/
theorem errors_nonempty : Facts.errorFormatLengths.all (fun n => decide (0 < n)) = true := by decide +kernel

theorem error_literals_counted : Facts.errorFormats.length = Facts.errorFormatLengths.length := by decide +kernel

/-- **The bash emitter neither fails nor panics on a typed AST**: every stack access of the converter
    (`fors[len-1]` in the guarded increment) and every index into the value lists of a
    multi-assignment is in range -- the typing checker is run on every AST the real parser returns. -/
theorem bash_emitter_total_on_typed_asts (p : Program) (ht : typedProgram p = true) :
    ∃ script, Bash.emitBash p = .ok script := Bash.emitBash_total p ht

/-- **The Batch emitter neither fails nor panics on a typed, well-placed AST**: `ifs[len-1]`, `fors[len-1]`,
    `endLabels[len-1]`, `funcs[len-1]` and the current function block are always there when the converter reaches
    for them (heights of the stacks are an invariant of the walk). -/
theorem batch_emitter_total_on_typed_asts (p : Program) (ht : typedProgram p = true) (hp : placedStmts {} p = true) :
    ∃ script, Batch.emitBatch p = .ok script := Batch.emitBatch_total p ht hp

/-- script / error / panic are the three forms of `Tr.Res`: true of every value of that type.  That there is a
    result for EVERY AST is `emitBash` being a Lean function (structural recursion, no fuel). -/
theorem bash_emitter_three_outcomes (p : Program) :
    (∃ s, Bash.emitBash p = .ok s) ∨ (∃ m, Bash.emitBash p = .error m) ∨ (∃ m, Bash.emitBash p = .panic m) := by
  cases h : Bash.emitBash p with
  | ok s => exact Or.inl ⟨s, rfl⟩
  | error m => exact Or.inr (Or.inl ⟨m, rfl⟩)
  | panic m => exact Or.inr (Or.inr ⟨m, rfl⟩)

end Tsh.C13
