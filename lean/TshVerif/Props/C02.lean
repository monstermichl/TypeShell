/-
  C02 - Bash target preserves function-call semantics and variable isolation.

  About the model of transpiler.go + converters/bash/converter.go that the check ties to the code byte for byte:
    * `call_returns_all_values`: a call hands back exactly as many values as the function declares;
    * `return_registers_in_order` / `call_reads_registers_in_order`: `return v0, v1, …` (`storeRets`) stores into
      the registers `_rv0, _rv1, …` in order, and `copyRets` - what `funcCall` runs right after the call line,
      before any other call can clobber them - copies `_rv0, _rv1, …` in order into fresh helpers;
    * `parameters_bound_in_order`: parameter i is the `local` copy of positional argument i+1;
    * `locals_are_mangled`, `globals_are_not`: inside a function a non-global name is emitted as
      `f<funcCounter>_<name>`, a global name unchanged (so `=`, `op=`, `++`, multi-assignment, which all
      go through `varName` with the variable's global flag, write the global in place);
    * `each_function_gets_a_new_prefix`: `funcStart` increments the counter the prefix is built from;
    * `multi_assignment_reads_temporaries`: with several targets every value handed to the stores of the
      targets is a reference to some temporary `_ma<j>` (`a, b = b, a` uses the old values).
  What the lines mean in a model of bash is Props/C02Sem.lean; what /bin/bash does with `local`, `$n` and the registers is
  decided by the execution oracle of the check.
-/
import TshVerif.Lemmas.BashStmt
import TshVerif.Lemmas.BashRun
import TshVerif.Props.C10
namespace Tsh.C02
open Tsh Tsh.Tr Tsh.Bash

/-- **Return values travel through the registers in order.** -/
theorem return_registers_in_order : ∀ (vs : List String) (i : Nat) (s : St),
    storeRets vs i s = .ok ((), { s with code := (retLines vs i).reverse ++ s.code }) :=
  storeRets_run

/-- **The call site reads the registers in order, into fresh helpers.** -/
theorem call_reads_registers_in_order (n i : Nat) (s : St) :
    copyRets n i s = .ok (copyVals (helperAt s) n s.varCounter,
      { s with varCounter := s.varCounter + n, code := (copyLines (helperAt s) n i s.varCounter).reverse ++ s.code }) :=
  copyRets_run n i s

/-- **All declared return values reach the call site.** -/
theorem call_returns_all_values (name : String) (args : List String) (rets : List ValueType) (used : Bool)
    (s s' : St) (vs : List String) (h : funcCall name args rets used s = .ok (vs, s')) : vs.length = rets.length := by
  cases used with
  | true => rw [funcCall_run] at h; cases h; exact copyVals_length _ _ _
  | false => cases h; simp

/-- **Arguments are bound to parameters in order**, as `local` copies of `$1`, `$2`, … -/
theorem parameters_bound_in_order (ps : List String) (i : Nat) (s : St) :
    localParams ps i s = .ok ((), { s with code := (paramLines (varName s · false) ps i).reverse ++ s.code }) :=
  localParams_run ps i s

/-- **Locals are mangled** with the number of the function being emitted … -/
theorem locals_are_mangled (s : St) (name : String) (h : s.funcs ≠ []) :
    varName s name false = s!"f{s.funcCounter}_{name}" := C10.local_name_is_mangled s name h

/-- … **globals are not**, neither inside nor outside a function, and at top level nothing is. -/
theorem globals_are_not (s : St) (name : String) : varName s name true = name := by
  simp [varName]

theorem top_level_names_unchanged (s : St) (name : String) (g : Bool) (h : s.funcs = []) : varName s name g = name := by
  simp [varName, inFunction, h]

/-- every function definition gets the next prefix number -/
theorem each_function_gets_a_new_prefix (name : String) (ps : List String) (s s' : St) (a : Unit)
    (h : conv.funcStart name ps s = .ok (a, s')) : s'.funcCounter = s.funcCounter + 1 ∧ s'.funcs = name :: s.funcs := by
  have f := funcStart_ok h
  exact ⟨f.funcCounter, f.funcs⟩

theorem varEvalString_frame {s s' : St} (f : Frame s s') (n : String) (g : Bool) : varEvalString s' n g = varEvalString s n g := by
  simp [varEvalString, varName, inFunction, f.funcs, f.funcCounter]

/-- with more than one target every assigned value is a reference to a temporary `_ma<j>` -/
theorem multi_assignment_reads_temporaries (count : Nat) (hc : count > 1) :
    ∀ (n : Nat) (vals : List Expr) (i : Nat) (s s' : St) (values : List String),
      assignedValues conv count vals n i s = .ok (values, s') →
      ∀ v ∈ values, ∃ j : Nat, v = varEvalString s s!"_ma{j}" false := by
  intro n
  induction n with
  | zero => intro vals i s s' values h; simp [assignedValues, pure] at h; obtain ⟨rfl, _⟩ := h; simp
  | succ n ih =>
    intro vals i s s' values h
    cases vals with
    | nil => simp [assignedValues, Tr.panic] at h
    | cons e rest =>
      unfold assignedValues at h
      obtain ⟨r, s1, h1, h⟩ := EM.bind_ok h
      obtain ⟨v, s2, h2, h⟩ := EM.bind_ok h
      obtain ⟨vs, s3, h3, h⟩ := EM.bind_ok h
      have hv := (EM.pure_ok h).1
      subst hv
      simp only [hc, if_true] at h2
      obtain ⟨_, s1', h21, h22⟩ := EM.bind_ok h2
      have f12 := (evalExpr_quiet e true _ _ _ h1).frame.trans (emits_varAssignment _ _ _ _ _ _ h21).frame
      have f02 := f12.trans (emits_varEvaluation _ _ _ _ _ h22).frame
      obtain ⟨rfl, rfl⟩ := EM.pure_ok (show (pure (varEvalString s1' s!"_ma{i}" false) : BM String) s1' = .ok (v, s2) from h22)
      intro w hw
      rcases List.mem_cons.mp hw with rfl | hw
      · exact ⟨i, varEvalString_frame f12 _ _⟩
      · obtain ⟨j, hj⟩ := ih rest (i + 1) _ s3 vs h3 w hw
        exact ⟨j, hj.trans (varEvalString_frame f02 _ _)⟩

end Tsh.C02
