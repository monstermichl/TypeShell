/-
  C08 - String values are opaque data on every path: never expanded or executed.

  About the model of converters/bash/converter.go (`StringToString`, the line templates) that the check ties
  to the code byte for byte, and a model of bash's double-quote rules (Lemmas/Quote.lean, Bash manual 3.1.2.3):
    * `literal_roundtrip`: for EVERY literal without `$` and backquote -- double quotes, backslashes,
      glob characters, dashes, blanks, newlines, tabs, non-ASCII included -- the text bash reads
      between the quotes the converter writes is the literal itself, and the quote ends where the
      converter closed it (nothing of the value can leave the quotes);
    * `literal_concat`: escaping distributes over concatenation, so values joined in one word
      (print with several values, string `+` of literals) stay escaped as a whole;
    * `assigned_literal`, `printed_literal`: the same through the actual line templates of assignment
      and print (printf '%s\n', not echo); the arguments of a program call are `C18.command_words`;
    * `literal_with_dollar_is_expanded`: the NEGATIVE result behind the known finding
      `literal-dollar-backquote-expanded`: a literal with `$` or a backquote does start an expansion;
    * `input_line`, `input_line_text`: `input` emits one line form, `IFS= read -r`; in the model of bash's
      `read` (Sem/BashRead) such a command assigns the line as it is.
  The semantic side, in the bash model, is Props/C08Sem.lean.
  Run-time values (from files, stdin, commands) travel as `${var}` references inside double
  quotes; that bash does not re-scan the result of a parameter expansion inside double quotes
  is bash semantics outside this model and is decided by the execution oracle (canary files,
  byte-for-byte output) of the check.
-/
import TshVerif.Lemmas.Quote
import TshVerif.Sem.BashRead
namespace Tsh.C08
open Tsh Tsh.Bash

/-- **Literals survive quoting byte for byte.** -/
theorem literal_roundtrip (s : String) (rest : List Char) (h : plainString s = true) :
    dqScan [] ((stringToString s).toList ++ '"' :: rest) = .ok s.toList rest :=
  stringToString_roundtrip s rest h

theorem literal_concat (a b : String) : stringToString (a ++ b) = stringToString a ++ stringToString b :=
  stringToString_append a b

/-- scanning the escaped text alone never closes the quote -/
theorem literal_never_closes_quote (s : String) (h : plainString s = true) :
    dqScan [] (stringToString s).toList = .unterminated := by
  rw [stringToString_toList, ← List.append_nil (List.flatMap _ _), dqScan_escaped _ _ _ (by simpa [plainString] using h)]
  rfl

/-- **Assignment**: the line `name="<escaped literal>"` -- what follows the opening quote reads back as the literal -/
theorem assigned_literal (n s : String) (h : plainString s = true) :
    ∃ rest, (Line.render (.assign n (stringToString s))).toList = n.toList ++ '=' :: '"' :: rest ∧
      dqScan [] rest = .ok s.toList [] := by
  refine ⟨(stringToString s).toList ++ ['"'], ?_, literal_roundtrip s [] h⟩
  simp [Line.render, String.toList_append, toString]

/-- **Print**: the line `printf '%s\n' "<values>"` -- a fixed command and format, then one quoted word -/
theorem printed_literal (s : String) (h : plainString s = true) :
    ∃ rest, (Line.render (.echo (stringToString s))).toList = "printf '%s\\n' \"".toList ++ rest ∧
      dqScan [] rest = .ok s.toList [] := by
  refine ⟨(stringToString s).toList ++ ['"'], ?_, literal_roundtrip s [] h⟩
  simp [Line.render, String.toList_append]

/-- **The known limitation, proved**: `$` and backquote in a literal are not protected. -/
theorem literal_with_dollar_is_expanded (s : String) (rest : List Char) (h : plainString s = false) :
    dqScan [] ((stringToString s).toList ++ rest) = .expands := by
  rw [stringToString_toList]
  apply dq_dollar_expands
  simpa [plainString] using h

#guard plainString "a \"quoted\" \\ back*slash -n ~ 'x'\n\t"
#guard !plainString "a$HOME"

/-- how bash reads the line `readIn` (`IFS= read -r [-p "prompt"] name`), written by hand: empty IFS, raw, one name; the
    prompt goes to the terminal, not into the value -/
def readCmdOf : Line → Option BashRead.ReadCmd
  | .readIn _ h => some { ifs := [], raw := true, name := h }
  | _ => none

/-- **`input()` and `input(prompt)` emit ONE line form**; the value is a fresh helper variable -/
theorem input_line (prompt : String) (s : St) :
    inputOp prompt s = .ok (varEvalString s s!"_h{s.varCounter}" false,
      { s with varCounter := s.varCounter + 1,
               code := .readIn (promptArg prompt) (varName s s!"_h{s.varCounter}" false) :: s.code }) := rfl

theorem input_line_text (p h : String) : Line.render (.readIn p h) = "IFS= read -r" ++ p ++ " " ++ h := rfl

/-- the prompt form differs from the plain form only by ` -p "<prompt>"` between `-r` and the name -/
theorem input_prompt_text (prompt : String) :
    promptArg prompt = if prompt.length > 0 then " -p \"" ++ prompt ++ "\"" else "" := by
  unfold promptArg; split <;> simp_all [String.length_eq_zero_iff, toString]

/-- **A line read by `input` is the line**: the emitted line is a `readIn`, and the command `readCmdOf` gives for it assigns
    exactly the line.  `readCmdOf` ignores the prompt and the rendered text: about the converter this adds nothing to `input_line`. -/
theorem input_reads_the_line_unchanged (prompt : String) (s : St) (line : List Char) :
    ∃ v s' l c, inputOp prompt s = .ok (v, s') ∧ s'.code = l :: s.code ∧ readCmdOf l = some c ∧ c.value line = line := by
  refine ⟨_, _, _, { ifs := [], raw := true, name := varName s s!"_h{s.varCounter}" false }, input_line prompt s, rfl, rfl, ?_⟩
  exact BashRead.readOne_empty_ifs_raw line

/-- the NEGATIVE side: with bash's default IFS the same command loses leading and trailing blanks -/
theorem default_ifs_strips_blanks :
    BashRead.readOne BashRead.defaultIfs true " a b\t".toList = "a b".toList := by decide

end Tsh.C08
