/-
  C04 - Operands are evaluated exactly once, in source order, conditions eagerly: the semantic side.

  Evaluation order and multiplicity are observable: an operand that is a call of a function which prints (a "tracer")
  leaves a line in the output each time it is evaluated.  For the programs of the fragment `Sem2.Src.fragP` the
  emitted script prints exactly the lines the source semantics prints, in the same order
  (`C02.bash_preserves_semantics_with_functions`).  The source semantics `Sem2/Src` evaluates the operands of every
  operator, call, slice literal, index, subscript, `print`, `return`, assignment once and from left to right, both
  operands of `&&` / `||` always, all conditions of an if / else-if chain before the first branch is chosen, and the
  condition of a loop before every iteration (what it does with `s[a:b]`: `a`, `b`, then `s` - `s` is a variable or a
  literal there).  So for these programs order and multiplicity of operand evaluation in the script are those of the
  source semantics - for all programs of the fragment, not for the sampled ones.
-/
import TshVerif.Props.C02Sem
namespace Tsh.C04
open Tsh Tsh.Tr Tsh.Bash Tsh.Sem2

/-- **Every effect of operand evaluation appears in the script's output as often and in the order the source
    semantics produces it.** -/
theorem bash_evaluates_operands_as_the_source_does (p : Program) (hf : Src.fragP [] p = true) (ls : List Line)
    (hc : compile p = .ok ls) :
    ∃ hcmds cmds : List Cmd, ls = .shebang :: (flats hcmds ++ flats cmds) ∧
      ∀ fuel k out, Src.runProgram fuel p = some (k, out) →
        ∃ (o' : Out) (m' : Cfg), ExecCmds (hcmds ++ cmds) Cfg.init o' m' ∧ ((o' = .normal ∧ k = 0) ∨ o' = .exit k) ∧ m'.out = out :=
  C02.bash_preserves_semantics_with_functions p hf ls hc

/-- tracers: `t(n)` prints `n` and returns it; the output expected below shows the order the head comment states -/
def tracerSample : Program :=
  let int : ValueType := ⟨.int, false⟩
  let bool : ValueType := ⟨.bool, false⟩
  let v (n : String) (vt : ValueType) (g : Bool) : Var := ⟨n, vt, g, false⟩
  let t (n : Int) : Expr := .call "t" [int] [.intLit n]
  [.funcDef "t" false [int] [v "n" int false] [.print [.varEval (v "n" int false)], .ret [.varEval (v "n" int false)]],
   .funcDef "add" false [int] [v "a" int false, v "b" int false]
      [.ret [.binary "+" (.varEval (v "a" int false)) (.varEval (v "b" int false))]],
   .ifS (.logical "||" (.compare "==" (t 1) (.intLit 1)) (.compare "==" (t 2) (.intLit 0)))
      [.print [.call "add" [int] [t 5, t 6]]]
      [(.compare "==" (t 3) (.intLit 3), [.print [.intLit 0]])]
      []]

example : Src.fragP [] tracerSample = true := by decide
#guard Src.runProgram 100 tracerSample == some (0, ["1", "2", "3", "5", "6", "11"])
#guard (match compile tracerSample with | .ok ls => Tsh.Sem2.run 100 ls == some (.normal, ["1", "2", "3", "5", "6", "11"]) | _ => false)

end Tsh.C04
