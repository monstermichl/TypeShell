/-
  C02 - Bash target preserves function-call semantics and variable isolation: the semantic theorem.

  `bash_preserves_semantics_with_functions`: for every program of the fragment `fragP` - function definitions at
  top level (any number of parameters and return values, locals, nested calls, calls as arguments, calls of
  earlier functions inside later ones), integers, booleans, strings, slices (literals, element reads and assignment,
  `len`, `copy`), string subscripts, `if`/`else if`/`else`, `for` with `break`/`continue`, `print`, `panic`, single and
  multiple assignment from values or from one call - the emitted
  script, read by the bash model (positional parameters, `local` with restore on return, return registers,
  `exit`), does what the source semantics says: same printed lines, same way of ending.  Proof: induction over the
  program with the table of translated functions as invariant; each body is proved once, against every later state of
  the program (`BodySim`), by the frame property of the bash model (a function's lines assign only its own prefixed
  names, globals, the return registers and its loop flags).

  Not in the fragment (left to the execution oracle of the check; TypeShell itself has no recursion - a function
  can be called only after its definition is complete - so define-before-use is no restriction): command calls, `switch`,
  `for range`.
-/
import TshVerif.Lemmas.Sem2Top
import TshVerif.Lemmas.Sem2Det
namespace Tsh.C02
open Tsh Tsh.Tr Tsh.Bash Tsh.Sem2

/-- **The bash script means what the program means - functions, slices and strings included.**  `k` is the exit
    status (0: the program ran to its end; `panic` ends it with 1), `out` the printed lines.  The script is the
    shebang, the definitions `hcmds` of the helper routines it needs and the translated program `cmds`.  `fuel` is
    universally quantified: every terminating run of the source semantics, no bound on program size, call depth,
    iterations, number or length of slices. -/
theorem bash_preserves_semantics_with_functions (p : Program) (hf : Src.fragP [] p = true) (ls : List Line)
    (hc : compile p = .ok ls) :
    ∃ hcmds cmds : List Cmd, ls = .shebang :: (flats hcmds ++ flats cmds) ∧
      ∀ fuel k out, Src.runProgram fuel p = some (k, out) →
        ∃ (o' : Out) (m' : Cfg), ExecCmds (hcmds ++ cmds) Cfg.init o' m' ∧ ((o' = .normal ∧ k = 0) ∨ o' = .exit k) ∧ m'.out = out := by
  obtain ⟨s2, h2, rfl⟩ := compile_ok hc
  obtain ⟨cmds, n, m, fc, rq, e2, sim⟩ := prog_semF p [] _ s2 hf
    ⟨trivial, (fun _ he => nomatch he), List.nodup_nil, rfl, (fun _ he => nomatch he)⟩ h2
  refine ⟨helperCmds s2, cmds, ?_, ?_⟩
  · rw [flats_helperCmds]
    have hsc : s2.startCode = [.shebang] := by rw [e2]; rfl
    have hcd : s2.code = (flats cmds).reverse := by rw [e2]; simp [Sem.adv3, reqSt]
    simp [dumpLines, hsc, hcd]
  · intro fuel k out hs
    unfold Src.runProgram at hs
    have hinit : TopInv [] Src.SCfg.init Cfg.init :=
      ⟨⟨rfl, rfl, fun x v hx => by simp [Src.SCfg.init] at hx, (fun hin => by cases hin), ⟨rfl, fun _ => rfl, fun _ _ => rfl⟩⟩, rfl, rfl⟩
    have pre := exec_helperCmds s2 Cfg.init
    have hstart : ({ Cfg.init with funs := helperFuns s2 ++ Cfg.init.funs } : Cfg) = addH (helperFuns s2) Cfg.init := by
      simp [addH, Cfg.init]
    rw [hstart] at pre
    have fin : ∀ {o' m'}, ExecCmds cmds Cfg.init o' m' → ExecCmds (helperCmds s2 ++ cmds) Cfg.init o' (addH (helperFuns s2) m') :=
      fun ex => execCmds_append pre (execCmds_addH (helperFuns s2) ex)
    split at hs
    · rename_i c' hs'
      cases hs
      obtain ⟨m', ex, hout⟩ := sim fuel Src.SCfg.init .normal c' hs' Cfg.init hinit
      exact ⟨.normal, _, fin ex, Or.inl ⟨rfl, rfl⟩, hout.symm⟩
    · rename_i k' c' hs'
      cases hs
      obtain ⟨m', ex, hout⟩ := sim fuel Src.SCfg.init (.exit k) c' hs' Cfg.init hinit
      exact ⟨.exit k, _, fin ex, Or.inr rfl, hout.symm⟩
    · simp at hs

/-- **The outcome is unique, and it is the one the executable bash model computes**: the relation is
    deterministic and the interpreter `execCmds` - the function run next to /bin/bash on the same scripts in every
    check - is sound for it.  The statement is about SOME tree `cmds` whose flattening is the script: the driver runs
    `execCmds` on `parse ls`, and that `parse` returns this `cmds` is not stated. -/
theorem bash_model_with_functions_outcome_unique (p : Program) (hf : Src.fragP [] p = true) (ls : List Line)
    (hc : compile p = .ok ls) :
    ∃ cmds : List Cmd, ls = .shebang :: flats cmds ∧
      ∀ f1 f2 k out o2 c2, Src.runProgram f1 p = some (k, out) → execCmds f2 cmds Cfg.init = some (o2, c2) →
        ((o2 = .normal ∧ k = 0) ∨ o2 = .exit k) ∧ out = c2.out := by
  obtain ⟨hcmds, cmds, e, sem⟩ := bash_preserves_semantics_with_functions p hf ls hc
  refine ⟨hcmds ++ cmds, by rw [e, flats_append], ?_⟩
  intro f1 f2 k out o2 c2 h1 h2
  obtain ⟨o', m', ex, ho, eo⟩ := sem f1 k out h1
  obtain ⟨e1, e2⟩ := exec_agrees h2 ex
  subst e1 e2
  exact ⟨ho, eo.symm⟩

/-- the hypotheses are satisfiable and the conclusion is about real behaviour: two functions, the second calling
    the first with a call as argument, a local that shadows a global, two return values -/
def semSample : Program :=
  let vi (n : String) (g : Bool) : Var := ⟨n, ⟨.int, false⟩, g, false⟩
  let int : ValueType := ⟨.int, false⟩
  [.varDef [vi "g" true] [.intLit 10],
   .funcDef "add" false [int] [vi "a" false, vi "b" false]
      [.varDef [vi "t" false] [.binary "+" (.varEval (vi "a" false)) (.varEval (vi "b" false))],
       .assign [vi "g" true] [.binary "+" (.varEval (vi "g" true)) (.intLit 1)],
       .ret [.varEval (vi "t" false)]],
   .funcDef "two" false [int, int] [vi "a" false]
      [.varDef [vi "t" false] [.call "add" [int] [.call "add" [int] [.varEval (vi "a" false), .intLit 1], .varEval (vi "a" false)]],
       .ret [.varEval (vi "t" false), .varEval (vi "a" false)]],
   .varDefCall [vi "x" true, vi "y" true] (.call "two" [int, int] [.intLit 5]),
   .print [.varEval (vi "x" true), .varEval (vi "y" true), .varEval (vi "g" true)]]

example : Src.fragP [] semSample = true := by decide
#guard Src.runProgram 100 semSample == some (0, ["11 5 12"])
#guard (match compile semSample with | .ok ls => Tsh.Sem2.run 100 ls == some (.normal, ["11 5 12"]) | _ => false)

end Tsh.C02
