/-
  C14 - Transpilation is a pure, repeatable function of source content and target.
  The two theorems pin, by `rfl`, facts that tools/extract reads from the Go source on every run (Generated/Facts.lean), so a
  change of the source in these respects fails the build.  That the audited places cannot make the output depend on
  anything but source and target is argued in DESIGN.md (C14), not proved.
-/
import TshVerif.Generated.Facts
namespace Tsh.C14
open Tsh

/-- The only places where non-test code iterates over a Go map (iteration order is random), calls
    `maps.*`, declares package-level variables or asks the environment -- re-extracted from the source
    on every run.  Each entry is accounted for in DESIGN.md (C14): the merge loop is modelled as a fold
    in the order given (`mergeUsed`; C09: no edge is lost for any list of entries; that every order gives
    the same result is not proved), `convMapping` only feeds an error message and `tsh.go` (C19), the
    package-level variables are read-only tables, `filepath.Abs`/`os.Executable` only locate files. -/
theorem facts_as_audited :
    Facts.mapRanges = ["parser/parser.go:evaluateImports:importParser.usedFuncs", "tsh.go:parseOptions:convMapping"] ∧
    Facts.mapsCalls = ["parser/parser.go:clone:maps.Clone", "parser/parser.go:clone:maps.Clone", "parser/parser.go:clone:maps.Clone",
                       "parser/parser.go:evaluateFunctionDefinition:maps.DeleteFunc"] ∧
    Facts.pkgVars = ["lexer/lexer.go:nonAlphabeticTokens", "lexer/lexer.go:keywords", "parser/parser.go:typeMapping", "tsh.go:convMapping"] ∧
    Facts.envCalls = ["parser/parser.go:parse:filepath.Abs", "parser/parser.go:evaluateImports:os.Executable"] :=
  ⟨rfl, rfl, rfl, rfl⟩

/-- **Where state can live**: the fields of the transpiler object, of the two converters, of the
    parser and of its context are exactly the audited ones (re-extracted on every run).  A converter
    and a parser are created per `Transpile` call.  The Lean models mirror these fields (`Bash.St`,
    `Batch.St`, the parser model's state), so a field added to the code is reported. -/
theorem state_structs_as_audited :
    Facts.stateStructs =
      ["converters/bash/converter.go:converter: interpreter string; startCode []string; code []string; varCounter int; forCounter int; fors []int; funcs []funcInfo; funcCounter int; sliceAssignmentHelperRequired bool; sliceCopyHelperRequired bool; stringSubscriptHelperRequired bool",
       "converters/batch/converter.go:converter: startCode []string; helperCode []string; globalCode []string; previousFunctionName string; functionsCode [][]string; endCode []string; varCounter int; ifCounter int; forCounter int; endLabels []string; funcs []funcInfo; funcCounter int; fors []forInfo; ifs []ifInfo; lfSet bool; appCallHelperRequired bool; readHelperRequired bool; sliceAssignmentHelperRequired bool; sliceCopyHelperRequired bool; sliceLenSetHelperRequired bool; sliceLenGetHelperRequired bool; stringSubscriptHelperRequired bool; stringLenHelperRequired bool; fileWriteHelperRequired bool; echoHelperRequired bool",
       "parser/parser.go:context: imports map[string]string; variables map[string]Variable; functions map[string]FunctionDefinition; scopeStack []scope",
       "parser/parser.go:Parser: tokens []lexer.Token; index int; path string; prefix string; currFunc string; importing []string; usedFuncs map[string][]string",
       "transpiler/transpiler.go:transpiler: converter Converter"] :=
  rfl

end Tsh.C14
