/-
  C03 - Bash target preserves slice and string operation semantics: the semantic theorem.

  The fragment `Sem2.Src.fragP` of `C02.bash_preserves_semantics_with_functions` contains slice literals, element
  reads and element assignment (with the fill of a gap by the zero value), `len` of slices and strings, `copy`,
  string subscripts `s[i]`, `s[a:b]`, `s[a:]`, `s[:b]`, slices as arguments and results of functions, slices that are
  shared between variables (a slice value is a reference, as in Go).  So the theorem below is that theorem, stated
  for this property: what the source semantics says about such a program is what the bash model says about the
  emitted script.  The bash model takes the three helper routines `_sah`, `_sch`, `_ssh` as primitives
  (`Sem2.stepSimple`, cases `sah`, `sahInit`, `sch`, `ssh`) - their text is fixed (`sahBodyLines` ...), and what
  /bin/bash does with that text is observed in every run of the check, on the same scripts.

  Strings are ASCII here (`plainLit`), so a character is a byte and an index means the same in Go, bash and the model.
-/
import TshVerif.Props.C02Sem
import TshVerif.Props.C03
namespace Tsh.C03
open Tsh Tsh.Tr Tsh.Bash Tsh.Sem2

/-- **Slices and strings mean in bash what they mean in the program.** -/
theorem bash_preserves_slice_and_string_semantics (p : Program) (hf : Src.fragP [] p = true) (ls : List Line)
    (hc : compile p = .ok ls) :
    ∃ hcmds cmds : List Cmd, ls = .shebang :: (flats hcmds ++ flats cmds) ∧
      ∀ fuel k out, Src.runProgram fuel p = some (k, out) →
        ∃ (o' : Out) (m' : Cfg), ExecCmds (hcmds ++ cmds) Cfg.init o' m' ∧ ((o' = .normal ∧ k = 0) ∨ o' = .exit k) ∧ m'.out = out :=
  C02.bash_preserves_semantics_with_functions p hf ls hc

/- The primitives of the bash model are the functional models of Props/C03 under other names: `sahSet l i v d` is `sah l i v d`
   and `copyInto src dst` is `sch dst src`, by unfolding; so `sah_stored`, `sah_others`, `sah_gap`, `sch_copied`, `sch_rest_kept`
   speak of what the semantic theorem above executes. -/

/-- element assignment is Go's assignment inside the slice, and beyond its end it appends after filling the gap -/
theorem sahSet_inside {α : Type} (l : List α) (i : Nat) (v d : α) (h : i < l.length) : sahSet l i v d = l.set i v := by
  simp [sahSet, h]

theorem sahSet_length {α : Type} (l : List α) (i : Nat) (v d : α) : (sahSet l i v d).length = max l.length (i + 1) :=
  sah_length l i v d

/-- `copy` overwrites from the front and never shortens the destination -/
theorem copyInto_length {α : Type} (src dst : List α) : (copyInto src dst).length = max src.length dst.length :=
  (sch_length dst src).trans (Nat.max_comm _ _)

/-- a sample in the fragment: a slice built by a function, shared between two variables, extended through one of them
    past its end, and a substring of a concatenation -/
def sliceSample : Program :=
  let int : ValueType := ⟨.int, false⟩
  let ints : ValueType := ⟨.int, true⟩
  let str : ValueType := ⟨.string, false⟩
  let v (n : String) (vt : ValueType) (g : Bool) : Var := ⟨n, vt, g, false⟩
  [.funcDef "mk" false [ints] [v "a" int false]
      [.ret [.sliceNew .int [.varEval (v "a" int false), .binary "*" (.varEval (v "a" int false)) (.intLit 2)]]],
   .varDefCall [v "s" ints true] (.call "mk" [ints] [.intLit 3]),
   .varDef [v "t" ints true] [.varEval (v "s" ints true)],
   .sliceAssign (v "t" ints true) (.intLit 4) (.intLit 9),
   .varDef [v "w" str true] [.binary "+" (.strLit "ab") (.strLit "cde")],
   .print [.len (.varEval (v "s" ints true)), .sliceEval (.varEval (v "s" ints true)) (.intLit 1) .int,
           .sliceEval (.varEval (v "s" ints true)) (.intLit 3) .int, .sliceEval (.varEval (v "s" ints true)) (.intLit 4) .int,
           .substr (.varEval (v "w" str true)) (.intLit 1) (some (.binary "-" (.intLit 4) (.intLit 1))), .len (.varEval (v "w" str true))]]

example : Src.fragP [] sliceSample = true := by decide
#guard Src.runProgram 100 sliceSample == some (0, ["5 6 0 9 bcd 5"])
#guard (match compile sliceSample with | .ok ls => Tsh.Sem2.run 100 ls == some (.normal, ["5 6 0 9 bcd 5"]) | _ => false)

end Tsh.C03
