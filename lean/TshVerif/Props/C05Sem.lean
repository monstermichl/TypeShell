/-
  C05 - Batch target preserves the program semantics under cmd.exe's rules: SEMANTIC PRESERVATION, for the scalar fragment.

  Source side: `Sem/Src32` (the reference semantics the property names: 32-bit integers, cmd-neutral alphabet).  Target side:
  `Sem/Cmd` (run-time `!name!` expansion, 32-bit `set /A` on canonical decimal operands, numeric versus quoted-string `IF`, the echo
  routine, `goto :end` with the exit code in `_e`), `Sem/CmdTree` (what the labels, `goto`s and parenthesised blocks of an
  if-chain or a loop amount to) and `Sem/CmdLines` (labels, `goto`s and blocks as cmd.exe meets them, line by line).
  The theorems, each stronger than the one before: straight-line programs, the LINES run one after the other by `runLinesB`;
  plus if / else-if / else chains, the lines being `flats` of a block tree run by `ExecBs`; plus `for`, `break`, `continue`; then
  the same fragment with no tree in the statement, the lines of the script under `LRun`, from the store the start code leaves,
  and from the first line and the empty store.  All programs of the fragment, every nesting, every number of statements and rounds.
  NOT proved: functions, slices, string operations (the fragments of C02 / C03 on this target), `switch` / `range` (known
  findings); that cmd.exe reads the rendered text as the structured lines - the line-level machine `Sem/Cmd.runPC`,
  lib/cmdsim.py on the text, the tree via `treeOf` and the 32-bit reference are compared on every scalar program of every
  run (lib/props/c05.py).
-/
import TshVerif.Lemmas.SemBLoop
import TshVerif.Lemmas.SemBDet
import TshVerif.Lemmas.SemBLabels
import TshVerif.Lemmas.SemBLinesComplete
import TshVerif.Lemmas.SemBPre

namespace Tsh.C05S
open Tsh Tsh.Tr Tsh.Batch Tsh.Sem Tsh.SemB

/-- what the start code of every script leaves behind: no variable but the exit code `_e`, which is 0 -/
def startStore : Store := Store.set (fun _ => "") "_e" "0"

/-- the converter state behind `programStart`: the four start lines and nothing else -/
def startSt : St := { startCode := [.set "_e" "0", .raw "setlocal", .raw "setlocal EnableDelayedExpansion", .raw "@echo off"] }

theorem programStart_run : programStart ({} : St) = .ok ((), startSt) := rfl

theorem compile_inv {p : Program} {ls : List BLine} (hc : compile p = .ok ls) :
    ∃ s, evalProgram conv p {} = .ok ((), s) ∧ evalStmts conv p startSt = .ok ((), s) ∧ ls = dumpLines s := by
  obtain ⟨s, hrun, rfl⟩ := Batch.compile_ok hc
  refine ⟨s, hrun, ?_, rfl⟩
  unfold evalProgram at hrun
  obtain ⟨_, s1, h1, hrun⟩ := EM.bind_ok hrun
  obtain ⟨_, s2, h2, h3⟩ := EM.bind_ok hrun
  cases programStart_run.symm.trans h1
  cases (EM.pure_ok (a := ()) h3).2
  exact h2

theorem runProgram_inv {fuel : Nat} {p : Program} {o : Out} {out : List String} (h : Src32.runProgram fuel p = some (o, out)) :
    ∃ c', Src32.execStmts fuel p Src.SCfg.init = some (o, c') ∧ c'.out = out := by
  unfold Src32.runProgram at h
  split at h
  · rename_i o' c' hr
    cases h
    exact ⟨c', hr, rfl⟩
  · cases h

theorem agree_init (ρ : Store) : Agree Src.SCfg.init.env ρ := fun x v hx => by simp [Src.SCfg.init] at hx

/-- **The Batch script means what the program means (straight-line programs).**  For every program `p` made of
    definitions and assignments (of one variable or simultaneous), `print` and a final `panic`: the emitted script is the start
    code, the helper routines, the lines `code` of the program and the two end lines (no function block), and whenever the
    32-bit source semantics runs `p` to an outcome `o` (end of program, or exit 1 after `panic`) with printed lines `out`,
    the cmd model runs `code` from the store the start code leaves to the same outcome with the same printed lines; at
    a normal end the exit code variable still holds 0.  `_partial`: the property also covers control flow, functions, slices
    and string operations. -/
theorem batch_preserves_straight_line_semantics_partial (p : Program) (hs : straight p = true) (ls : List BLine)
    (hc : compile p = .ok ls) :
    ∃ (st : St),
      ls = st.startCode.reverse ++ helperLines st ++ (st.functionsCode.map List.reverse).flatten ++ st.globalCode.reverse ++
             [.label "end", .raw "endlocal & exit /B %_e%"] ∧
      ∀ fuel o out, Src32.runProgram fuel p = some (o, out) →
        st.functionsCode = [] ∧
        ∃ c' : Cfg, runLinesB st.globalCode.reverse ⟨startStore, []⟩ = some (o, c') ∧ c'.out = out ∧
          (o = .normal → c'.ρ "_e" = "0") := by
  obtain ⟨s, _, h2, rfl⟩ := compile_inv hc
  refine ⟨s, rfl, fun fuel o out hr => ?_⟩
  obtain ⟨c', hr', rfl⟩ := runProgram_inv hr
  obtain ⟨new, n, ad, sem⟩ := stmtsB_sem p hs startSt s rfl h2 fuel Src.SCfg.init o c' hr'
  obtain ⟨ρ', run, post⟩ := sem startStore (agree_init _)
  have hcode : s.globalCode = new := ad.code.trans (List.append_nil new)
  exact ⟨ad.fcode, ⟨ρ', c'.out⟩, hcode ▸ run, rfl, fun ho => (post ho).2.1.trans (set_same _ _ _)⟩

/-! non-vacuity: a concrete program of the fragment compiles, runs in the source semantics, and the lines of its script run
    in the cmd model to the same two printed lines and exit code 1 -/
private def x : Var := { name := "x", vt := ⟨.int, false⟩, global := true, pub := false }
private def sample : Program :=
  [ .varDef [x] [.binary "*" (.intLit 6) (.intLit 7)],
    .print [.varEval x, .compare "<" (.varEval x) (.intLit 50), .strLit "a b"],
    .panic (.binary "+" (.strLit "x is ") (.itoa (.varEval x))) ]

example : straight sample = true := by decide
#guard Src32.runProgram 10 sample == some (.exit 1, ["42 1 a b", "panic: x is 42"])
#guard (match compile sample with
  | .ok ls => SemB.run 1000 ls == some (.exit 1, ["42 1 a b", "panic: x is 42"])
  | _ => false)

theorem dumpLines_of_advT {s : St} {cmds : List BCmd} {n : Nat} (ad : AdvT startSt s (flats none cmds).reverse n) :
    dumpLines s = s.startCode.reverse ++ helperLines s ++ flats none cmds ++ [.label "end", .raw "endlocal & exit /B %_e%"] := by
  have hcode : s.globalCode.reverse = flats none cmds := by rw [ad.code]; simp [startSt]
  have hfc : s.functionsCode = [] := ad.fcode
  simp [dumpLines, hcode, hfc]

theorem simT_program {p : Program} {cmds : List BCmd} {k : Nat} (sim : SimT (fun f c => Src32.execStmts f p c) cmds k)
    {fuel : Nat} {o : Out} {out : List String} (hr : Src32.runProgram fuel p = some (o, out)) :
    ∃ c' : Cfg, ExecBs cmds ⟨startStore, []⟩ o c' ∧ c'.out = out ∧ (o = .normal → c'.ρ "_e" = "0") := by
  obtain ⟨c', hr', rfl⟩ := runProgram_inv hr
  obtain ⟨ρ', ex, post⟩ := sim fuel Src.SCfg.init o c' hr' startStore (agree_init _)
  exact ⟨⟨ρ', c'.out⟩, ex, rfl, fun ho => (post (by intro k; rw [ho]; simp)).2.1.trans (set_same _ _ _)⟩

/-- **The Batch script means what the program means (programs with conditionals).**  For every program `p` of the scalar
    fragment without loops - if / else-if / else chains nested to any depth, panic anywhere: the emitted script is the start
    code, the helper routines, NO function block, the lines of a block tree `cmds` (`Sem/CmdTree`: if-chains with their end
    labels `_i<k>`, `goto` to that label at the end of every branch, `) else if` / `) else` blocks) and the two end lines; and
    whenever the 32-bit source semantics runs `p` to an outcome `o` with printed lines `out`, the tree runs (`ExecBs`) from the
    store the start code leaves to the same outcome with the same printed lines; at a normal end `_e` still holds 0.
    All else-if conditions are evaluated before the first test, as the project states.  `_partial`: loops, break / continue,
    functions, slices and string operations are not covered. -/
theorem batch_preserves_conditional_semantics_partial (p : Program) (hf : Src.fragStmts p = true) (hn : noLoopStmts p = true)
    (ls : List BLine) (hc : compile p = .ok ls) :
    ∃ (st : St) (cmds : List BCmd),
      ls = st.startCode.reverse ++ helperLines st ++ flats none cmds ++ [.label "end", .raw "endlocal & exit /B %_e%"] ∧
      ∀ fuel o out, Src32.runProgram fuel p = some (o, out) →
        ∃ c' : Cfg, ExecBs cmds ⟨startStore, []⟩ o c' ∧ c'.out = out ∧ (o = .normal → c'.ρ "_e" = "0") := by
  obtain ⟨s, _, h2, rfl⟩ := compile_inv hc
  obtain ⟨cmds, n, ad, _, sim⟩ := stmtsT_sem none p hf hn startSt s rfl h2
  exact ⟨s, cmds, dumpLines_of_advT ad, fun _ _ _ hr => simT_program sim hr⟩

theorem start_of_envExt {s : St} (h : EnvExt startSt s) :
    ∃ extra, s.startCode.reverse = baseStart ++ extra ∧ ∀ l ∈ extra, lfLine l = true := by
  obtain ⟨_, extra, hse, hpe⟩ := h
  exact ⟨extra.reverse, by rw [hse]; simp [baseStart, startSt], fun l hl => hpe l (List.mem_reverse.mp hl)⟩

theorem helpers_of_envExt {s : St} (h : EnvExt startSt s) : helperLines s = (if s.echReq then echoHelper else []) := by
  obtain ⟨⟨f1, f2, f3, f4, f5, f6, f7, f8, f9⟩, _⟩ := h
  simp [helperLines, f1, f2, f3, f4, f5, f6, f7, f8, f9, startSt, echoHelper]

theorem cont_script_end {whole : List BLine} {ctx : LCtx} {o : Out} {c' c : Cfg} {L : List BLine}
    (snd : Cont whole ctx [.label "end", .raw "endlocal & exit /B %_e%"] o c' L c) (he : o = .normal → c'.ρ "_e" = "0") :
    (o = .normal → LRun whole L c (.exit 0) c') ∧ (∀ k, o = .exit k → LRun whole L c (.exit k) c') := by
  refine ⟨fun ho => ?_, fun k ho => ?_⟩
  · subst ho
    have h0 : asCode (c'.ρ "_e") = some 0 := by
      rw [he rfl]
      show asCode (Nat.repr 0) = some 0
      simp [asCode]
    exact snd _ _ (.plabel (.finish h0))
  · subst ho
    exact snd

/-- what the theorems below share: the tree, what stands in front of its lines, what the tree does and what its lines do in the script -/
theorem scalar_core (p : Program) (hf : Src.fragStmts p = true) (hn : simpleLoopsStmts p = true)
    (ls : List BLine) (hc : compile p = .ok ls) :
    ∃ (st : St) (cmds : List BCmd),
      ls = st.startCode.reverse ++ helperLines st ++ flats none cmds ++ [.label "end", .raw "endlocal & exit /B %_e%"] ∧
      wfBs cmds = true ∧ Resolves ls ∧
      (∃ extra, st.startCode.reverse = baseStart ++ extra ∧ ∀ l ∈ extra, lfLine l = true) ∧
      helperLines st = (if st.echReq then echoHelper else []) ∧
      ∀ fuel o out, Src32.runProgram fuel p = some (o, out) →
        ∃ c' : Cfg, (ExecBs cmds ⟨startStore, []⟩ o c' ∧ c'.out = out ∧ (o = .normal → c'.ρ "_e" = "0")) ∧
          (o = .normal → LRun ls (flats none cmds ++ [.label "end", .raw "endlocal & exit /B %_e%"]) ⟨startStore, []⟩ (.exit 0) c') ∧
          (∀ k, o = .exit k → LRun ls (flats none cmds ++ [.label "end", .raw "endlocal & exit /B %_e%"]) ⟨startStore, []⟩ (.exit k) c') := by
  obtain ⟨s, hrun, h2, rfl⟩ := compile_inv hc
  obtain ⟨cmds, n, ad, wf, sim⟩ := stmtsL_sem none p hf hn startSt s rfl ⟨rfl, rfl⟩ h2
  have e := dumpLines_of_advT ad
  have hR := resolves_dumpLines (program_linv p () s hrun) ad.ifs ad.ends wf e
  refine ⟨s, cmds, e, wf, hR, start_of_envExt ad.env, helpers_of_envExt ad.env, fun fuel o out hr => ?_⟩
  obtain ⟨c', ex, eo, he⟩ := simT_program sim hr
  have snd := sound_Bs hR ex wf none (s.startCode.reverse ++ helperLines s) [.label "end", .raw "endlocal & exit /B %_e%"] (by rw [e]; simp)
  exact ⟨c', ⟨ex, eo, he⟩, cont_script_end snd he⟩

/-- **The Batch script means what the program means (scalar fragment).**  For every program `p` of the scalar fragment -
    integer / boolean / string expressions, definitions and assignments (single or simultaneous), print, panic,
    if / else-if / else chains, `for` loops with init / condition / increment, `break`, `continue`, nested to any depth
    (`simpleLoopsStmts`: the increment of a loop is a definition or an assignment, as the grammar has it): the script has the
    shape above, and the tree has loops number `n` with head label `_f<n>`, end label `_e<n>` and first-round flag `_fv<n>`
    tested by `if defined`, and `break` / `continue` as `goto` to the labels of the INNERMOST enclosing loop (by construction
    of `flats`).  Whenever the 32-bit source semantics runs `p` to an outcome `o` with printed lines `out` - whatever the
    number of rounds of any loop - the tree runs (`ExecBs`) from the store the start code leaves to the same outcome with the
    same printed lines; at a normal end `_e` still holds 0.
    The counterpart of `C01.bash_preserves_scalar_semantics` for the other target.  Not covered: functions, slices,
    string operations (C02 / C03 fragments), `switch` and `range` (known findings). -/
theorem batch_preserves_scalar_semantics (p : Program) (hf : Src.fragStmts p = true) (hn : simpleLoopsStmts p = true)
    (ls : List BLine) (hc : compile p = .ok ls) :
    ∃ (st : St) (cmds : List BCmd),
      ls = st.startCode.reverse ++ helperLines st ++ flats none cmds ++ [.label "end", .raw "endlocal & exit /B %_e%"] ∧
      ∀ fuel o out, Src32.runProgram fuel p = some (o, out) →
        ∃ c' : Cfg, ExecBs cmds ⟨startStore, []⟩ o c' ∧ c'.out = out ∧ (o = .normal → c'.ρ "_e" = "0") := by
  obtain ⟨st, cmds, e, _, _, _, _, sem⟩ := scalar_core p hf hn ls hc
  exact ⟨st, cmds, e, fun fuel o out hr => let ⟨c', h, _⟩ := sem fuel o out hr; ⟨c', h⟩⟩

/-- **The outcome is unique, and it is the one the executable tree interpreter computes.**  The relation `ExecBs` is
    deterministic and the interpreter `execBs` - the function that is run on the tree rebuilt from every script, next to the
    line-level machine and lib/cmdsim.py, in every check - is sound for it: so for a program of the scalar fragment, whenever
    the source semantics and the interpreter both finish, they give the same outcome and the same printed lines.  (The theorem
    speaks of SOME tree `cmds` whose lines are the program part of the script; the driver runs `execBs` on `treeOf` of those lines;
    that `treeOf` returns this `cmds` is not stated.) -/
theorem batch_tree_outcome_unique (p : Program) (hf : Src.fragStmts p = true) (hn : simpleLoopsStmts p = true)
    (ls : List BLine) (hc : compile p = .ok ls) :
    ∃ (st : St) (cmds : List BCmd),
      ls = st.startCode.reverse ++ helperLines st ++ flats none cmds ++ [.label "end", .raw "endlocal & exit /B %_e%"] ∧
      ∀ f1 f2 o1 out1 o2 c2, Src32.runProgram f1 p = some (o1, out1) → execBs f2 cmds ⟨startStore, []⟩ = some (o2, c2) →
        o1 = o2 ∧ out1 = c2.out := by
  obtain ⟨st, cmds, e, sem⟩ := batch_preserves_scalar_semantics p hf hn ls hc
  refine ⟨st, cmds, e, ?_⟩
  intro f1 f2 o1 out1 o2 c2 hs hx
  obtain ⟨c', ex, eo, _⟩ := sem f1 o1 out1 hs
  obtain ⟨h1, h2⟩ := execBs_det ex (execBs_sound f2 cmds _ o2 c2 hx)
  exact ⟨h1, by rw [← eo, h2]⟩

/-- **The LINES of the script do what the program does** - no block tree in the statement.  `LRun ls rest c o c'`
    (`Sem/CmdLines`) is the meaning of a script as a list of lines: a simple line runs and the next line follows; a label is
    a no-op; `goto :L` continues behind the first definition of `L` in the whole script `ls`; `if <cond> (` with a false
    condition skips to the matching `)`, `) else (` or `) else if … (`, counting nested brackets; the last line ends the script
    with the code in `_e`.  For every program of the scalar fragment the script is `pre ++ main ++` the two end lines, where
    `pre` is the start code and the helper routines, and whenever the 32-bit source semantics runs the program to a normal end
    (or to a panic), the lines `main ++ end` run, from the store the start code leaves, to exit code 0 (or 1) with the same
    printed lines.  Outside this statement: that the start code leaves `startStore` and jumps over the helper routines (`pre`
    is not run here; `batch_whole_script_preserves_scalar_semantics` runs it), and that cmd.exe reads the rendered text as
    these lines. -/
theorem batch_script_lines_preserve_scalar_semantics (p : Program) (hf : Src.fragStmts p = true) (hn : simpleLoopsStmts p = true)
    (ls : List BLine) (hc : compile p = .ok ls) :
    ∃ (pre main : List BLine),
      ls = pre ++ (main ++ [.label "end", .raw "endlocal & exit /B %_e%"]) ∧
      ∀ fuel o out, Src32.runProgram fuel p = some (o, out) →
        ∃ c' : Cfg, c'.out = out ∧
          (o = .normal → LRun ls (main ++ [.label "end", .raw "endlocal & exit /B %_e%"]) ⟨startStore, []⟩ (.exit 0) c') ∧
          (∀ k, o = .exit k → LRun ls (main ++ [.label "end", .raw "endlocal & exit /B %_e%"]) ⟨startStore, []⟩ (.exit k) c') := by
  obtain ⟨st, cmds, e, _, _, _, _, sem⟩ := scalar_core p hf hn ls hc
  refine ⟨st.startCode.reverse ++ helperLines st, flats none cmds, by rw [e]; simp, fun fuel o out hr => ?_⟩
  obtain ⟨c', ⟨_, eo, _⟩, hl⟩ := sem fuel o out hr
  exact ⟨c', eo, hl⟩

/-- **The WHOLE script, from its first line and the empty store, does what the program does.**  For every program of the
    scalar fragment: whenever the 32-bit source semantics runs the program to a normal end (or to a panic) with printed lines
    `out`, the emitted script `ls` - all of it: `@echo off`, the two `setlocal`, `set "_e=0"`, the definition of `LF` where a
    string literal asked for it, the jump over the echo routine, the lines of the program, `:end` and
    `endlocal & exit /B %_e%` - runs under `Sem/CmdLines.LRun` from its FIRST line and the EMPTY store to exit code 0 (or 1)
    with the same printed lines.  The only definitions the statement speaks about are `compile`, `Src32.runProgram` and `LRun`
    (which is exactly what the interpreter `lrun` computes, `line_semantics_is_what_lrun_computes`, and what every run compares
    with lib/cmdsim.py on the rendered text).  Outside: that cmd.exe reads the rendered text as these lines; the value of `LF`
    (the strings of the fragment contain no line break). -/
theorem batch_whole_script_preserves_scalar_semantics (p : Program) (hf : Src.fragStmts p = true) (hn : simpleLoopsStmts p = true)
    (ls : List BLine) (hc : compile p = .ok ls) :
    ∀ fuel o out, Src32.runProgram fuel p = some (o, out) →
      ∃ c' : Cfg, c'.out = out ∧
        (o = .normal → LRun ls ls ⟨fun _ => "", []⟩ (.exit 0) c') ∧
        (∀ k, o = .exit k → LRun ls ls ⟨fun _ => "", []⟩ (.exit k) c') := by
  obtain ⟨st, cmds, e, _, _, ⟨extra, hst, hex⟩, hh, sem⟩ := scalar_core p hf hn ls hc
  intro fuel o out hr
  obtain ⟨c', ⟨_, eo, _⟩, hnorm, hexit⟩ := sem fuel o out hr
  have hw : ls = baseStart ++ (extra ++ ((if st.echReq then echoHelper else []) ++
      (flats none cmds ++ [.label "end", .raw "endlocal & exit /B %_e%"]))) := by
    rw [e, hst, hh]; simp
  have pre := pre_leads ls extra _ hex st.echReq hw
  rw [← hw] at pre
  exact ⟨c', eo, fun ho => pre _ _ (hnorm ho), fun k ho => pre _ _ (hexit k ho)⟩

theorem lrun_agrees {whole L : List BLine} {c c' c2 : Cfg} {o o2 : Out} {f2 : Nat} (hl : LRun whole L c o c')
    (hx : lrun whole f2 L c = some (o2, c2)) : o2 = o ∧ c'.out = c2.out :=
  let ⟨h1, h2⟩ := LRun.det hl (lrun_sound whole f2 L c o2 c2 hx)
  ⟨h1.symm, congrArg Cfg.out h2⟩

/-- **What the driver computes on the whole script is the program's result.**  `SemB.runLines fuel ls = lrun ls fuel ls ⟨empty⟩`
    is the function the check runs on every script of the fragment and compares with lib/cmdsim.py: whenever the source
    semantics ends normally or with a panic and `lrun` finishes on the whole script from the empty store, it reports the exit
    code of the program (0 for a normal end) and the same printed lines. -/
theorem batch_whole_script_outcome_unique (p : Program) (hf : Src.fragStmts p = true) (hn : simpleLoopsStmts p = true)
    (ls : List BLine) (hc : compile p = .ok ls) :
    ∀ f1 f2 o1 out1 o2 c2, Src32.runProgram f1 p = some (o1, out1) → lrun ls f2 ls ⟨fun _ => "", []⟩ = some (o2, c2) →
      (o1 = .normal → o2 = .exit 0 ∧ out1 = c2.out) ∧ (∀ k, o1 = .exit k → o2 = .exit k ∧ out1 = c2.out) := by
  intro f1 f2 o1 out1 o2 c2 hs hx
  obtain ⟨c', rfl, hnorm, hexit⟩ := batch_whole_script_preserves_scalar_semantics p hf hn ls hc f1 o1 out1 hs
  exact ⟨fun ho => lrun_agrees (hnorm ho) hx, fun k ho => lrun_agrees (hexit k ho) hx⟩

/-- **At the line level the outcome is unique, and it is the one the executable line interpreter computes.**  `LRun` is
    deterministic and the interpreter `lrun` - run on every script of the fragment in every check, next to the program-counter
    machine, the tree interpreter and lib/cmdsim.py - is sound for it: whenever the source semantics ends normally or with a
    panic and `lrun` finishes on the script's lines, `lrun` reports the exit code the program has (0 for a normal end) and the
    same printed lines. -/
theorem batch_lines_outcome_unique (p : Program) (hf : Src.fragStmts p = true) (hn : simpleLoopsStmts p = true)
    (ls : List BLine) (hc : compile p = .ok ls) :
    ∃ (pre main : List BLine),
      ls = pre ++ (main ++ [.label "end", .raw "endlocal & exit /B %_e%"]) ∧
      ∀ f1 f2 o1 out1 o2 c2, Src32.runProgram f1 p = some (o1, out1) →
        lrun ls f2 (main ++ [.label "end", .raw "endlocal & exit /B %_e%"]) ⟨startStore, []⟩ = some (o2, c2) →
        (o1 = .normal → o2 = .exit 0 ∧ out1 = c2.out) ∧ (∀ k, o1 = .exit k → o2 = .exit k ∧ out1 = c2.out) := by
  obtain ⟨pre, main, e, sem⟩ := batch_script_lines_preserve_scalar_semantics p hf hn ls hc
  refine ⟨pre, main, e, fun f1 f2 o1 out1 o2 c2 hs hx => ?_⟩
  obtain ⟨c', rfl, hnorm, hexit⟩ := sem f1 o1 out1 hs
  exact ⟨fun ho => lrun_agrees (hnorm ho) hx, fun k ho => lrun_agrees (hexit k ho) hx⟩

/-- **The line-level semantics is exactly what the line interpreter computes.**  `LRun ls rest c o c'` holds if and only if
    `lrun ls fuel rest c` answers `(o, c')` for some amount of fuel (soundness `lrun_sound`, completeness `lrun_complete`,
    fuel monotone `lrun_mono`).  The relation of `batch_script_lines_preserve_scalar_semantics` is therefore not an extra
    trusted definition next to the executable one that the checks compare with lib/cmdsim.py: they are the same thing. -/
theorem line_semantics_is_what_lrun_computes (whole rest : List BLine) (c : Cfg) (o : Out) (c' : Cfg) :
    LRun whole rest c o c' ↔ ∃ fuel, lrun whole fuel rest c = some (o, c') :=
  ⟨lrun_complete, fun ⟨f, h⟩ => lrun_sound whole f rest c o c' h⟩

/-! non-vacuity: a program with a nested loop, `break`, `continue`, an if / else-if / else chain and a panic is in the fragment, runs in
    the source semantics, and its script runs in the line-level machine of `Sem/Cmd` to the same printed lines and exit code -/
private def iv : Var := { name := "i", vt := ⟨.int, false⟩, global := true, pub := false }
private def jv : Var := { name := "j", vt := ⟨.int, false⟩, global := true, pub := false }
private def loopSample : Program :=
  [ .forS (some (.varDef [iv] [.intLit 0])) (.compare "<" (.varEval iv) (.intLit 4)) (some (.assign [iv] [.binary "+" (.varEval iv) (.intLit 1)]))
      [ .ifS (.compare "==" (.varEval iv) (.intLit 1)) [.cont] [(.compare "==" (.varEval iv) (.intLit 3), [.brk])] [.print [.varEval iv]],
        .forS (some (.varDef [jv] [.intLit 0])) (.boolLit true) (some (.assign [jv] [.binary "+" (.varEval jv) (.intLit 1)]))
          [ .ifS (.compare ">" (.varEval jv) (.varEval iv)) [.brk] [] [],
            .print [.strLit "j", .varEval jv] ] ],
    .panic (.strLit "stop") ]

example : Src.fragStmts loopSample = true ∧ simpleLoopsStmts loopSample = true := by decide
#guard Src32.runProgram 100 loopSample == some (.exit 1, ["0", "j 0", "2", "j 0", "j 1", "j 2", "panic: stop"])
#guard (match compile loopSample with
  | .ok ls => SemB.run 10000 ls == some (.exit 1, ["0", "j 0", "2", "j 0", "j 1", "j 2", "panic: stop"])
  | _ => false)
#guard (match compile loopSample with
  | .ok ls => SemB.runTree 10000 ls == some (.exit 1, ["0", "j 0", "2", "j 0", "j 1", "j 2", "panic: stop"])
  | _ => false)
#guard (match compile loopSample with
  | .ok ls => SemB.runLines 10000 ls == some (.exit 1, ["0", "j 0", "2", "j 0", "j 1", "j 2", "panic: stop"])
  | _ => false)

end Tsh.C05S
