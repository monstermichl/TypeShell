/-
  C13, the parser half - THE PARSER DOES NOT CRASH.

  The model of the parser (Model/Parser.lean) has four outcomes: a program, an error, `panic` and `diverge`.  `panic`
  stands at exactly the places where parser.go would crash if it got there: it indexes the argument list of a builtin
  after the arity check (`args[0]`, `args[1]`, `args[2]`), the parameter list with the position of the argument just
  parsed, the name list of a definition (`names[0]`), the value and type lists of a compound assignment.  Proved
  by the walks at the pass that proves nothing (`Post` carries "no run ends in `panic`"): for ALL file systems, import
  graphs and token sequences the parser ends in a program, an error or `diverge` - never in `panic`.

  `diverge` is the model's out-of-fuel outcome (the recursion of the model is by fuel, 40 x tokens + 200 per file, and
  `files + 1` levels of imports).  That this fuel always suffices is NOT proved; the correspondence run compares the
  outcome classes of model and parser on every generated input (a `diverge` of the model against an answer of the
  parser would be a disagreement), and the crash / hang search of the C13 check runs the real parser under a watchdog.
-/
import TshVerif.Lemmas.ParserFiles
import TshVerif.Lemmas.ParserTypedPreds
namespace Tsh.C13
open Tsh Tsh.Parser

/-- **The parser never reaches one of its crash sites**, whatever it is given. -/
theorem parser_never_panics (fs : FileSys) (main : String) : Parser.parse fs main ≠ .panic :=
  parse_eq_parseFile fs main ▸ (fileGood_any _ fs main false []).np

/-- program, error, or (model only) fuel exhaustion -/
theorem parser_outcomes (fs : FileSys) (main : String) :
    (∃ p s, Parser.parse fs main = .ok p s) ∨ Parser.parse fs main = .error ∨ Parser.parse fs main = .diverge := by
  have h := parser_never_panics fs main
  cases hp : Parser.parse fs main with
  | ok p s => exact Or.inl ⟨p, s, rfl⟩
  | error => exact Or.inr (Or.inl rfl)
  | panic => exact absurd hp h
  | diverge => exact Or.inr (Or.inr rfl)

/-- the same for an imported file at any depth, in any import context -/
theorem imported_file_never_panics (depth : Nat) (fs : FileSys) (path : String) (imported : Bool) (importing : List String) :
    parseFile depth fs path imported importing ≠ .panic :=
  (fileGood_any depth fs path imported importing).np

/-- and for the statement and expression parsers from any state (any token array, any position); no crash site depends on
    typing, so the hypothesis on the context is not used -/
theorem statement_parser_never_panics (fuel : Nat) (ctx : Ctx) (hc : CtxOK ctx) (s : PSt) : evalStatement fuel ctx s ≠ .panic :=
  have _ := hc
  ((anyWalk fuel).statement () ctx trivial).np s

theorem expression_parser_never_panics (fuel : Nat) (ctx : Ctx) (hc : CtxOK ctx) (s : PSt) : evalExpression fuel ctx s ≠ .panic :=
  have _ := hc
  evalExpression_np fuel ctx s

/-! non-vacuity: the crash sites are real branches of the model (a builtin's argument list of the wrong length WOULD reach one) -/
example : (do let args ← (pure [] : PM (List Expr)); match args with | [v] => pure (Expr.len v) | _ => pan : PM Expr)
    { toks := #[] } = .panic := rfl

end Tsh.C13
