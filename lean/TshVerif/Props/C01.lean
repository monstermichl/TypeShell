/-
  C01 - Bash target preserves scalar expression and control-flow semantics.

  About the model of transpiler.go + converters/bash/converter.go (which the check ties to the real code
  byte for byte on every run), for EVERY well-formed AST (`wfStmts`, checked on every AST the real parser returns):
    * the emitted script is the shebang, the helper routines, and a line sequence of the
      grammar `Shape .blk` -- every `if` has its `fi`, every `while` its `done`, the guarded
      increment and the break-unless line of a loop sit where the `for` meaning needs them
      (increment first, then the condition statements, then the exit test, then the body);
    * every loop has its own first-iteration flag `_fv<n>`: the flags are numbered 0,1,2,… in
      the order the loops start (the state `forCounter`); the guarded increment of a loop tests and sets
      the flag of that very loop (part of the grammar: `incrStart n … incrFlagSet n` inside `forFlagInit n`);
    * expressions never emit control-flow lines and never touch the loop stack;
    * helper variables `_h<n>` are allocated by a strictly increasing counter;
    * for every program of the scalar fragment `Src.fragStmts` (integer / boolean / string expressions,
      definitions and assignments, if / else-if / else chains, loops with break and continue, print and panic)
      the emitted lines are the shebang and the flattening of a block structure whose execution in the bash model `Sem/Bash`
      prints what the source semantics `Sem/Src` prints and ends the same way.
  Not reached by a theorem - that /bin/bash reads the rendered text as that block structure and executes its
  lines as `Sem/Bash` says, and that `Sem/Src` is Go's meaning - is decided in every run by executing both models
  next to /bin/bash and the reference interpreter on the same generated programs (DESIGN.md, C01).
-/
import TshVerif.Lemmas.BashStmt
import TshVerif.Lemmas.SemProg
import TshVerif.Lemmas.SemDet
namespace Tsh.C01
open Tsh Tsh.Tr Tsh.Bash

/-- **Shape of every emitted bash script.** -/
theorem compile_shape (p : Program) (hw : wfStmts p = true) (ls : List Line) (h : compile p = .ok ls) :
    ∃ (st : St) (body : List Line) (n : Nat), ls = .shebang :: (helperLines st ++ body) ∧ Shape .blk 0 n body :=
  Bash.compile_shape p hw ls h

/-- **No two loops share a first-iteration flag**: the `_fv<n>=` initialisations of the script are
    numbered 0, 1, …, n-1 in script order. -/
theorem loop_flags_numbered (p : Program) (hw : wfStmts p = true) (ls : List Line) (h : compile p = .ok ls) :
    ∃ (st : St) (body : List Line) (n : Nat), ls = .shebang :: (helperLines st ++ body) ∧
      flagInits body = List.range' 0 n := by
  obtain ⟨st, body, n, hl, hs⟩ := compile_shape p hw ls h
  exact ⟨st, body, n, hl, by simpa using hs.flags⟩

theorem loop_flags_distinct (p : Program) (hw : wfStmts p = true) (ls : List Line) (h : compile p = .ok ls) :
    ∃ (st : St) (body : List Line), ls = .shebang :: (helperLines st ++ body) ∧ (flagInits body).Nodup := by
  obtain ⟨st, body, n, hl, hf⟩ := loop_flags_numbered p hw ls h
  exact ⟨st, body, hl, by rw [hf]; exact List.nodup_range'⟩

/-- expressions (operands, conditions, arguments) emit only simple commands and leave the loop stack
    and the loop counter alone -/
theorem expressions_emit_simple_lines (e : Expr) (used : Bool) (s s' : St) (vs : List String)
    (h : evalExpr conv e used s = .ok (vs, s')) :
    s'.fors = s.fors ∧ s'.forCounter = s.forCounter ∧ ∃ new, s'.code = new ++ s.code ∧ ∀ l ∈ new, l.isSimple = true := by
  have f := (evalExpr_quiet e used _ _ _ h).frame
  exact ⟨f.fors, f.forCounter, f.code⟩

/-- helper variables are handed out by a strictly increasing counter -/
theorem helper_counter_increases (s s' : St) (h : String) (hr : nextHelperVar s = .ok (h, s')) :
    h = s!"_h{s.varCounter}" ∧ s'.varCounter = s.varCounter + 1 := by
  simp [nextHelperVar] at hr
  obtain ⟨rfl, rfl⟩ := hr
  exact ⟨rfl, rfl⟩

/-! non-vacuity: a concrete program with a nested loop, an if/else-if/else chain and a function is well-formed,
    compiles, and its two loops get the flags 0 and 1 -/
private def x : Var := { name := "x", vt := ⟨.int, false⟩, global := true, pub := false }
private def sample : Program :=
  [ .varDef [x] [.intLit 0],
    .forS (some (.varDef [x] [.intLit 0])) (.compare "<" (.varEval x) (.intLit 3)) (some (.assign [x] [.binary "+" (.varEval x) (.intLit 1)]))
      [ .forS none (.boolLit true) none [.brk],
        .ifS (.compare "==" (.varEval x) (.intLit 1)) [.print [.varEval x]] [(.boolLit false, [])] [.cont] ],
    .funcDef "f" false [] [] [.ret []] ]

example : wfStmts sample = true := by decide
#guard (match compile sample with | .ok ls => flagInits ls | _ => []) == [0, 1]

open Tsh.Sem in
/-- **The bash script means what the program means**: for every terminating run of the source semantics (outcome: end of program,
    or `exit 1` after `panic`) the bash model runs `cmds` from the empty store to the same outcome with the same printed lines. -/
theorem bash_preserves_scalar_semantics (p : Program) (hf : Src.fragStmts p = true) (ls : List Line)
    (hc : compile p = .ok ls) :
    ∃ cmds : List Cmd, ls = .shebang :: flats cmds ∧
      ∀ fuel o out, Src.runProgram fuel p = some (o, out) →
        ∃ c' : Cfg, ExecCmds cmds Cfg.init o c' ∧ c'.out = out := by
  obtain ⟨s, h2, rfl⟩ := compile_ok hc
  obtain ⟨cmds, n, m, e2, sim⟩ := stmts_sem p hf _ s rfl h2
  refine ⟨cmds, ?_, ?_⟩
  · rw [e2]
    simp [dumpLines, adv2, helperLines]
  · intro fuel o out hs
    unfold Src.runProgram at hs
    split at hs
    · next o' c' hs' =>
      simp only [Option.some.injEq, Prod.mk.injEq] at hs
      obtain ⟨rfl, rfl⟩ := hs
      obtain ⟨ρ', ex, _, _⟩ := sim fuel Src.SCfg.init o' c' hs' (fun _ => "") (by intro x v hx; simp [Src.SCfg.init] at hx)
      exact ⟨⟨ρ', c'.out⟩, ex, rfl⟩
    · cases hs

open Tsh.Sem in
/-- **The outcome is unique**: for SOME tree `cmds` whose flattening is the script, whenever the source semantics and the
    interpreter `execCmds` on `cmds` both finish, they agree.  (The driver runs `execCmds` on `parse ls`; that `parse` returns
    this `cmds` is not stated.) -/
theorem bash_model_outcome_unique (p : Program) (hf : Src.fragStmts p = true) (ls : List Line)
    (hc : compile p = .ok ls) :
    ∃ cmds : List Cmd, ls = .shebang :: flats cmds ∧
      ∀ f1 f2 o1 out1 o2 c2, Src.runProgram f1 p = some (o1, out1) → execCmds f2 cmds Cfg.init = some (o2, c2) →
        o1 = o2 ∧ out1 = c2.out := by
  obtain ⟨cmds, e, sem⟩ := bash_preserves_scalar_semantics p hf ls hc
  refine ⟨cmds, e, ?_⟩
  intro f1 f2 o1 out1 o2 c2 h1 h2
  obtain ⟨c', ex, eo⟩ := sem f1 o1 out1 h1
  obtain ⟨e1, e2⟩ := exec_agrees h2 ex
  exact ⟨e1.symm, by rw [← eo, e2]⟩

open Tsh.Sem in
/-- non-vacuity: a counting loop with a `continue`, in the fragment, runs in both semantics and prints 0, 2 -/
def semSample : Program :=
  let i : Var := ⟨"i", ⟨.int, false⟩, true, false⟩
  [.forS (some (.varDef [i] [.intLit 0])) (.compare "<" (.varEval i) (.intLit 3))
      (some (.assign [i] [.binary "+" (.varEval i) (.intLit 1)]))
      [.ifS (.compare "==" (.varEval i) (.intLit 1)) [.cont] [] [], .print [.varEval i]]]

example : Tsh.Sem.Src.fragStmts semSample = true := by decide
#guard Tsh.Sem.Src.runProgram 100 semSample == some (.normal, ["0", "2"])
#guard (match compile semSample with | .ok ls => Tsh.Sem.run 100 ls == some (.normal, ["0", "2"]) | _ => false)

end Tsh.C01
