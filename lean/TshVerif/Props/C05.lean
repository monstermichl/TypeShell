/-
  C05 - Batch target preserves the same program semantics under cmd.exe's rules.

  About the model of transpiler.go + converters/batch/converter.go (Model/ConvBatch.lean, tied to the code by
  byte-for-byte comparison of every emitted Batch script), for EVERY program -- no hypothesis on the AST:
    * `every_statement_is_neutral`: every statement leaves the parenthesis depth of the emitted text and
      the heights of the four construct stacks (`ifs`, `fors`, `endLabels`, `funcs`) exactly where they
      were (two live constructs can share a label only if a stack is out of step);
    * `construct_stacks_empty_at_end`: after a whole program all four stacks are empty;
    * `parentheses_balanced`: in every emitted script the number of block-opening lines equals the
      number of block-closing lines, helper routines included (nothing about the order of the two kinds);
    * `label_allocation_if/_for`: `ifStart` pushes the label `_i<ifCounter>` and increments the counter, `forStart`
      pushes `_f<forCounter>` / `_e<forCounter>` and increments the counter.
  What the lines mean in a model of cmd.exe, for the scalar fragment, is Props/C05Sem.lean.  What cmd.exe does with the text
  (label search, percent and bang expansion, IF, call frames, set /A) is not a theorem: it is the cmd model of the check
  (lib/cmdsim.py, calibrated on the suite), which executes the script of every generated program and compares with the 32-bit
  reference result.
-/
import TshVerif.Lemmas.BatchGrade
namespace Tsh.C05
open Tsh Tsh.Tr Tsh.Batch

/-- **Every statement closes what it opens and pops what it pushes** (any weighted sum of depth and stack heights is unchanged). -/
theorem every_statement_is_neutral (c : Coef) (body : List Stmt) (s s' : St) (u : Unit) (h : evalStmts conv body s = .ok (u, s')) :
    mu c s' = mu c s := (evalStmts_neutral c body s u s' h).trans (Int.add_zero _)

theorem final_state (p : Program) (u : Unit) (s : St) (h : evalProgram conv p {} = .ok (u, s)) :
    depthCount s = 0 ∧ s.ifs = [] ∧ s.fors = [] ∧ s.endLabels = [] ∧ s.funcs = [] := by
  have h1 := program_measure ⟨1, 0, 0, 0, 0⟩ p u s h
  have h2 := program_measure ⟨0, 1, 0, 0, 0⟩ p u s h
  have h3 := program_measure ⟨0, 0, 1, 0, 0⟩ p u s h
  have h4 := program_measure ⟨0, 0, 0, 1, 0⟩ p u s h
  have h5 := program_measure ⟨0, 0, 0, 0, 1⟩ p u s h
  simp only [mu, Int.one_mul, Int.zero_mul, Int.add_zero, Int.zero_add] at h1 h2 h3 h4 h5
  exact ⟨h1, List.eq_nil_of_length_eq_zero (by omega), List.eq_nil_of_length_eq_zero (by omega),
    List.eq_nil_of_length_eq_zero (by omega), List.eq_nil_of_length_eq_zero (by omega)⟩

/-- **All construct stacks are empty when the program has been emitted.** -/
theorem construct_stacks_empty_at_end (p : Program) (u : Unit) (s : St) (h : evalProgram conv p {} = .ok (u, s)) :
    s.ifs = [] ∧ s.fors = [] ∧ s.endLabels = [] ∧ s.funcs = [] := (final_state p u s h).2

/-- **As many block-opening as block-closing lines in every emitted Batch script.** -/
theorem parentheses_balanced (p : Program) (ls : List BLine) (h : compile p = .ok ls) : sumD ls = 0 := by
  obtain ⟨s, hs, rfl⟩ := compile_ok h
  have hd := (final_state p () s hs).1
  rw [sumD_perm (dumpLines_perm s)]
  simp only [sumD_append, sumD_helperLines, codeLines]
  simp only [depthCount] at hd
  have : sumD [BLine.label "end", BLine.raw "endlocal & exit /B %_e%"] = 0 := rfl
  omega

/-- **Label numbers are handed out once**: each allocation increments the counter. -/
theorem label_allocation_if (c : String) (s s' : St) (u : Unit) (h : ifStartOp c s = .ok (u, s')) :
    s'.ifs = s!"_i{s.ifCounter}" :: s.ifs ∧ s'.ifCounter = s.ifCounter + 1 := by
  obtain ⟨_, _, _, rfl, _⟩ := addLine_ok (show addLine _ _ = _ from h)
  exact ⟨rfl, rfl⟩

theorem label_allocation_for (s s' : St) (u : Unit) (h : forStartOp s = .ok (u, s')) :
    s'.fors = s!"_f{s.forCounter}" :: s.fors ∧ s'.endLabels = s!"_e{s.forCounter}" :: s.endLabels ∧ s'.forCounter = s.forCounter + 1 := by
  obtain ⟨_, s4, h4, h5⟩ := EM.bind_ok (show (addLine _ >>= fun _ => addLine _) _ = _ from h)
  obtain ⟨_, _, _, rfl, _⟩ := addLine_ok h4
  obtain ⟨_, _, _, rfl, _⟩ := addLine_ok h5
  exact ⟨rfl, rfl, rfl⟩

end Tsh.C05
