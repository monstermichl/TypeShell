/-
  C11 - Tokenisation is faithful: theorems about Model/Lexer.lean (the model of lexer.Tokenize; tied to it by the token
  correspondence of the check), for all byte strings: the lexer ends; the lexemes partition the CRLF-normalised source and
  carry the positions of their first characters; punctuation is matched longest first; a block comment ends at its first
  `*/`; the tables the scanners stand for are those of the source.  Nothing is stated about identifiers, keywords, numbers
  and string literals: those scanners are covered by the token correspondence only.
-/
import TshVerif.Lemmas.Lexer
namespace Tsh.C11
open Tsh Tsh.Lexer Tsh.LexTables

/-- The hand-written scanners stand for exactly these regular-expression literals of `Tokenize`
    (re-read from the source on every run). -/
theorem regexes_as_modelled : regexes =
    ["^\\\\(x[0-9a-fA-F]{2}|u[0-9a-fA-F]{4}|U[0-9a-fA-F]{8}|[0-7]{3}|.)",
     "(?s)^\\/\\*(.*?)\\*\\/", "^\\/\\/(.*)", "^(true|false)\\b", "^-?\\d+(\\.\\d+)?",
     "[a-zA-Z_]", "[a-zA-Z0-9_]"] := rfl

/-- the token types after which `-` before digits is an operator, as modelled -/
theorem endsOperand_as_modelled :
    endsOperand = [TT_IDENTIFIER, TT_BOOL_LITERAL, TT_NUMBER_LITERAL, TT_STRING_LITERAL, TT_NIL_LITERAL,
                   TT_CLOSING_ROUND_BRACKET, TT_CLOSING_SQUARE_BRACKET] := rfl

theorem consumed_eq {s pre rest : Bytes} (h : s = pre ++ rest) : consumed s rest = pre := by
  subst h; simp [consumed]

def texts (ls : List Lexeme) : Bytes := (ls.map (·.text)).flatten

/-- every lexeme sits at the position reached by reading everything before it -/
def WellPlaced : Nat × Nat → List Lexeme → Prop
  | _, [] => True
  | p, l :: ls => (l.row, l.col) = p ∧ WellPlaced (advance p l.text) ls

theorem advance_append (p : Nat × Nat) (a b : Bytes) : advance (advance p a) b = advance p (a ++ b) := by
  simp [advance, List.foldl_append]

theorem wellPlaced_append (p : Nat × Nat) (a b : List Lexeme) :
    WellPlaced p (a ++ b) ↔ WellPlaced p a ∧ WellPlaced (advance p (texts a)) b := by
  induction a generalizing p with
  | nil => simp [WellPlaced, texts, advance]
  | cons l a ih =>
    simp only [List.cons_append, WellPlaced, ih, texts, List.map_cons, List.flatten_cons]
    rw [← advance_append]
    exact and_assoc.symm

theorem loop_spec (fuel last : Nat) (pos : Nat × Nat) (s : Bytes) (acc : List Lexeme) (hlen : s.length ≤ fuel) :
    loop fuel last pos s acc ≠ .diverge ∧
    (∀ ls p, loop fuel last pos s acc = .ok (ls, p) →
      ∃ new, ls = acc.reverse ++ new ∧ texts new = s ∧ WellPlaced pos new ∧ p = advance pos s) := by
  fun_induction loop fuel last pos s acc with
  | case1 fuel last pos acc =>
    refine ⟨nofun, fun ls p h => ?_⟩
    cases h
    exact ⟨[], (List.append_nil _).symm, rfl, trivial, rfl⟩
  | case2 => cases hlen
  | case3 => exact ⟨nofun, nofun⟩
  | case4 fuel last pos c t acc ty val rest hstep text lx last' ih =>
    obtain ⟨pre, hne, hs⟩ := step_consumes hstep
    have htext : text = pre := consumed_eq hs
    obtain ⟨hnd, hok⟩ := ih (Nat.le_of_lt_succ (Nat.lt_of_lt_of_le (step_consumes hstep).length_lt hlen))
    refine ⟨hnd, fun ls p h => ?_⟩
    obtain ⟨new, rfl, htx, hwp, rfl⟩ := hok ls p h
    refine ⟨lx :: new, by rw [List.reverse_cons, List.append_assoc]; rfl, ?_, ⟨rfl, hwp⟩, ?_⟩
    · rw [hs, ← htx, ← htext]; rfl
    · rw [advance_append, hs, htext]

theorem tokenizeTrace_spec (src : Bytes) :
    tokenizeTrace src ≠ .diverge ∧ ∀ ls p, tokenizeTrace src = .ok (ls, p) →
      texts ls = normCRLF src ∧ WellPlaced (1, 1) ls ∧ p = advance (1, 1) (normCRLF src) := by
  obtain ⟨hnd, hok⟩ := loop_spec (normCRLF src).length 0 (1, 1) (normCRLF src) [] (Nat.le_refl _)
  refine ⟨hnd, fun ls p h => ?_⟩
  obtain ⟨new, rfl, h⟩ := hok ls p h
  exact h

/-- **Totality of the lexer** (C13 uses it too): the fuel `length (normCRLF src)` always suffices. -/
theorem lex_total (src : Bytes) : tokenizeTrace src ≠ .diverge ∧ tokenize src ≠ .diverge := by
  refine ⟨(tokenizeTrace_spec src).1, fun h => ?_⟩
  unfold tokenize at h
  split at h
  · cases h
  · cases h
  · exact (tokenizeTrace_spec src).1 ‹_›

/-- **Every source character is accounted for, once**: the texts of all lexemes (tokens, blanks,
    comments), concatenated, are the CRLF-normalised source. -/
theorem lex_partition (src : Bytes) (ls : List Lexeme) (p : Nat × Nat)
    (h : tokenizeTrace src = .ok (ls, p)) : texts ls = normCRLF src :=
  ((tokenizeTrace_spec src).2 ls p h).1

/-- **Positions**: each lexeme's row and column are those of its first character, i.e. the position
    reached by reading all the text before it (rows advance at every line feed, also inside comments
    and string literals), and the EOF token sits at the end of the text. -/
theorem lex_positions (src : Bytes) (ls : List Lexeme) (p : Nat × Nat)
    (h : tokenizeTrace src = .ok (ls, p)) : WellPlaced (1, 1) ls ∧ p = advance (1, 1) (normCRLF src) :=
  ((tokenizeTrace_spec src).2 ls p h).2

/-- `Lexer.step_consumes` as an inequality of lengths -/
theorem step_nonempty {last : Nat} {s : Bytes} {ty : Nat} {val rest : Bytes}
    (h : step last s = .tok ty val rest) : rest.length < s.length := (step_consumes h).length_lt

/-- non-vacuity: the source ``/* a */ x := 1 /* b */ trueish⏎`r⏎s` y`` (two block comments on one line,
    an identifier that starts like a literal, a multi-line raw string) lexes to x := 1 trueish NEWLINE
    string y EOF: the code between the comments is kept, `trueish` is one identifier, and `y` is
    reported on row 3 -/
example : (match tokenize [47, 42, 32, 97, 32, 42, 47, 32, 120, 32, 58, 61, 32, 49, 32, 47, 42, 32, 98, 32, 42, 47, 32, 116, 114, 117, 101, 105, 115, 104, 10, 96, 114, 10, 115, 96, 32, 121] with
    | .ok ts => ts.map (fun t => (t.ty, t.row, t.col))
    | _ => []) = [(28, 1, 9), (14, 1, 11), (18, 1, 14), (28, 1, 24), (27, 1, 31), (19, 2, 1), (28, 3, 4), (53, 3, 5)] := by decide +kernel

/-- In the ordered punctuation table (re-read from the source) no entry is a prefix of a later entry. -/
theorem punct_keys_pairwise : punctB.Pairwise (fun a b => a.1.isPrefixOf b.1 = false) := by decide +kernel

theorem punct_longest_first :
    ∀ i j : Fin punctB.length, i.val < j.val → (punctB[i].1.isPrefixOf punctB[j].1) = false := fun i j h =>
  List.pairwise_iff_getElem.mp punct_keys_pairwise i j i.isLt j.isLt h

/-- `scanPunct` takes the first entry of the table that is a prefix of the input -/
theorem scanPunct_first {tbl : List (Bytes × Nat)} {s : Bytes} {ty : Nat} {v rest : Bytes} (h : scanPunct tbl s = some (ty, v, rest)) :
    ∃ pre post, tbl = pre ++ (v, ty) :: post ∧ s = v ++ rest ∧ ∀ e ∈ pre, e.1.isPrefixOf s = false := by
  fun_induction scanPunct tbl s with
  | case1 => cases h
  | case2 k t tbl s r hr => cases h; exact ⟨[], tbl, rfl, stripPrefix?_eq_some hr, nofun⟩
  | case3 k t tbl s hr ih =>
    obtain ⟨pre, post, rfl, e, hn⟩ := ih h
    refine ⟨(k, t) :: pre, post, rfl, e, fun x hx => (List.mem_cons.mp hx).elim (fun ex => ?_) (hn x)⟩
    refine Bool.eq_false_iff.mpr fun hk => ?_
    obtain ⟨r, hr'⟩ := List.isPrefixOf_iff_prefix.mp hk
    rw [← hr', ex, stripPrefix?_append] at hr
    cases hr

theorem scanPunct_longest {tbl : List (Bytes × Nat)} {s : Bytes} {ty : Nat} {v rest : Bytes}
    (hpw : tbl.Pairwise (fun a b => a.1.isPrefixOf b.1 = false)) (h : scanPunct tbl s = some (ty, v, rest)) :
    ∀ e ∈ tbl, e.1.isPrefixOf s = true → e.1.length ≤ v.length := by
  obtain ⟨pre, post, rfl, rfl, hn⟩ := scanPunct_first h
  intro e he hes
  rcases List.mem_append.mp he with he | he
  · exact absurd hes (Bool.eq_false_iff.mp (hn e he))
  · rcases List.mem_cons.mp he with rfl | he
    · exact Nat.le_refl _
    · -- a longer later entry that matches would have `v` as a prefix
      refine Nat.le_of_not_lt fun hl => ?_
      have := List.prefix_of_prefix_length_le (List.prefix_append v rest) (List.isPrefixOf_iff_prefix.mp hes) (Nat.le_of_lt hl)
      exact Bool.false_ne_true (((List.pairwise_cons.mp (List.pairwise_append.mp hpw).2.1).1 e he).symm.trans (List.isPrefixOf_iff_prefix.mpr this))

/-- **Longest match for operators and separators**: the punctuation token the lexer takes is at
    least as long as every other table entry that matches at this position. -/
theorem punct_longest_match {s : Bytes} {ty : Nat} {v rest : Bytes} (h : scanPunct punctB s = some (ty, v, rest)) :
    ∀ e ∈ punctB, e.1.isPrefixOf s = true → e.1.length ≤ v.length :=
  scanPunct_longest punct_keys_pairwise h

/-- does the byte string contain the block-comment terminator `*/`? -/
def hasClose : Bytes → Bool
  | [] => false
  | b :: t => (b == 42 && t.head? == some 47) || hasClose t

theorem hasClose_cons (b : UInt8) (t : Bytes) :
    hasClose (b :: t) = ((b == 42 && t.head? == some 47) || hasClose t) := rfl

/-- where the second equation of `scanBlockBody` applies no terminator starts: the first would have taken it -/
theorem not_close_of_ne {b : UInt8} {t : Bytes} (hne : ∀ rest, b = 42 → t = 47 :: rest → False) :
    (b == 42 && t.head? == some 47) = false := by
  refine Bool.eq_false_iff.mpr fun hh => ?_
  obtain ⟨hb, hd⟩ := Bool.and_eq_true_iff.mp hh
  cases t with
  | nil => cases beq_iff_eq.mp hd
  | cons x t' => exact hne _ (beq_iff_eq.mp hb) (congrArg (· :: _) (Option.some.inj (beq_iff_eq.mp hd)))

theorem scanBlockBody_first (s body rest : Bytes) (h : scanBlockBody s = some (body, rest)) :
    s = body ++ 42 :: 47 :: rest ∧ hasClose body = false := by
  fun_induction scanBlockBody s generalizing body with
  | case1 rest' => cases h; exact ⟨rfl, rfl⟩
  | case2 b t hne ih =>
    obtain ⟨⟨bd, rr⟩, hr, heq⟩ := Option.map_eq_some_iff.mp h
    cases heq
    obtain ⟨rfl, h2⟩ := ih bd hr
    refine ⟨rfl, ?_⟩
    rw [hasClose_cons, h2, Bool.or_false]
    cases bd with
    | nil => exact Bool.and_false _
    | cons x bd' => exact (not_close_of_ne hne :)
  | case3 => cases h

theorem scanBlockBody_isSome (s : Bytes) (hclose : hasClose s = true) : ∃ bd rr, scanBlockBody s = some (bd, rr) := by
  fun_induction scanBlockBody s with
  | case1 rest => exact ⟨[], rest, rfl⟩
  | case2 b t hne ih =>
    rw [hasClose_cons, Bool.or_eq_true] at hclose
    rcases hclose with hh | hc
    · cases (not_close_of_ne hne).symm.trans hh
    · obtain ⟨bd, rr, hh⟩ := ih hc
      exact ⟨b :: bd, rr, by rw [hh]; rfl⟩
  | case3 => cases hclose

/-- **Comments end at their first terminator**: at `/*` the lexer takes a COMMENT lexeme whose body
    contains no `*/`; the text right after that first terminator is lexed as code. -/
theorem block_comment_first_terminator {last : Nat} {body : Bytes} {ty : Nat} {val rest : Bytes}
    (h : step last (47 :: 42 :: body) = .tok ty val rest) (hclose : hasClose body = true) :
    ty = TT_COMMENT ∧ body = val ++ 42 :: 47 :: rest ∧ hasClose val = false := by
  obtain ⟨bd, rr, hs⟩ := scanBlockBody_isSome body hclose
  cases (step_blockComment last hs).symm.trans h
  exact ⟨rfl, scanBlockBody_first _ _ _ hs⟩

end Tsh.C11
