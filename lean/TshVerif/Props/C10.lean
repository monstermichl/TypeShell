/-
  C10 - Program behaviour is independent of how identifiers are spelled.

  TypeShell does NOT have this property in general (known finding reserved-identifiers-not-rejected:
  no identifier is rejected, and user names live in the same shell namespace as the names the back-ends
  emit).  Proved here, about the naming scheme of the bash converter model, is what does hold and where
  exactly it stops: the mangling of locals is injective; the names in `Owned` start with `_`, so a user identifier
  that does not is none of them; and the two collisions behind the known finding, as theorems about concrete witnesses.
  `Owned` is written by hand from the line templates (one constructor per kind of name the converter invents at top
  level; inside a function a helper is emitted mangled): no theorem ties it to Model/ConvBash.
  Behavioural equality under renaming is decided by the renaming oracle of the check.
-/
import TshVerif.Model.ConvBash
import TshVerif.Lemmas.Names
namespace Tsh.C10
open Tsh Tsh.Tr Tsh.Bash Tsh.Names

def mangled (k : Nat) (name : String) : String := s!"f{k}_{name}"

theorem mangled_toList (k : Nat) (name : String) : (mangled k name).toList = 'f' :: (Nat.toDigits 10 k ++ '_' :: name.toList) := by
  simp [mangled, String.toList_append, toString]

/-- **Mangling is injective**: locals of different functions never collide. -/
theorem mangling_is_injective (k k' : Nat) (a b : String) (h : mangled k a = mangled k' b) : k = k' ∧ a = b :=
  mangled_inj "f" h

/-- inside a function the converter uses exactly this mangling for non-global names -/
theorem local_name_is_mangled (s : St) (name : String) (h : s.funcs ≠ []) : varName s name false = mangled s.funcCounter name := by
  cases hf : s.funcs with
  | nil => exact absurd hf h
  | cons a b => simp [varName, inFunction, hf, mangled]

/-- the names the bash converter invents -/
inductive Owned : String → Prop
  | helper (n : Nat) : Owned s!"_h{n}"
  | retReg (n : Nat) : Owned s!"_rv{n}"
  | loopFlag (n : Nat) : Owned s!"_fv{n}"
  | multiTmp (n : Nat) : Owned s!"_ma{n}"
  | arrayCounter : Owned "_dvc"
  | arrayName (n : Nat) : Owned s!"_dv{n}"
  | routine (r : String) : r ∈ ["_sah", "_sch", "_ssh"] → Owned r
  | scratch (r : String) : r ∈ ["_i", "_l", "_c", "_n", "_v", "_ls", "_ll", "_ret"] → Owned r

theorem owned_names_start_with_underscore (n : String) (h : Owned n) : n.toList.head? = some '_' := by
  cases h with
  | arrayCounter => rfl
  | routine r hr => exact (by decide : ∀ r ∈ ["_sah", "_sch", "_ssh"], r.toList.head? = some '_') _ hr
  | scratch r hr => exact (by decide : ∀ r ∈ ["_i", "_l", "_c", "_n", "_v", "_ls", "_ll", "_ret"], r.toList.head? = some '_') _ hr
  | _ => simp [String.toList_append, toString]

/-- **A user identifier that does not start with `_` is never a compiler-owned name.** -/
theorem plain_user_names_never_hit_owned_names (user owned : String) (hu : user.toList.head? ≠ some '_') (ho : Owned owned) :
    user ≠ owned := by
  intro he; subst he; exact hu (owned_names_start_with_underscore _ ho)

/-- …and a mangled local (`f…`) is not one either -/
theorem mangled_names_never_hit_owned_names (k : Nat) (name owned : String) (ho : Owned owned) : mangled k name ≠ owned :=
  plain_user_names_never_hit_owned_names _ _ (by rw [mangled_toList]; nofun) ho

/-- a renaming that keeps two local names apart keeps their emitted names apart (same or different functions) -/
theorem renaming_partial (ρ : String → String) (hρ : ∀ a b, ρ a = ρ b → a = b) (k k' : Nat) (a b : String)
    (h : mangled k (ρ a) = mangled k' (ρ b)) : k = k' ∧ a = b := by
  obtain ⟨hk, hab⟩ := mangling_is_injective _ _ _ _ h
  exact ⟨hk, hρ _ _ hab⟩

/-- a GLOBAL called `f1_x` is emitted under the same shell name as the local `x` of the first function -/
theorem mangled_local_collides_with_global :
    varName { funcs := ["f"], funcCounter := 1 } "x" false = varName { funcs := ["f"], funcCounter := 1 } "f1_x" true := by
  decide

/-- a user variable called `_h0` is the converter's first helper variable -/
theorem user_name_can_be_a_helper : Owned "_h0" := Owned.helper 0

end Tsh.C10
