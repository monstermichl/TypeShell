/-
  C07 - Names resolve lexically; out-of-scope or misplaced constructs are rejected.

  Proved here, about the scope part of the parser model (Model/Parser.lean; tied to parser.Parse by the AST
  correspondence on the scope-skeleton generator of the check):
    * `definition_makes_visible`: a definition registered in a context is found under its name from then on,
      and registering it changes the visibility of no other name (`definition_leaves_others`);
    * `function_context_has_only_globals`: the filter of evaluateFunctionDefinition, written down here as
      `functionVars`, yields global variables only;
    * `parameters_distinct`: every accepted parameter list has pairwise different names;
    * `break_continue_return_placement`: the scope query `findScope` finds a scope that was pushed, also under
      further pushes (`evalBlockContent` pushes them), and the guards of `break` and `continue`, copied into the
      statement and not taken from the statement parser of the model, fail when it finds no loop (or switch);
    * blocks do not export definitions: `evalBlock` returns statements only -- the caller's context is a
      value that the block cannot change (by the type of the model function; in the Go code this is the
      `clone()` on block entry, whose sites are part of the correspondence).
  What every ACCEPTED program satisfies (placement, visible variables, new names) is proved in Props/C07Sem.lean;
  accept/reject verdicts for whole programs are decided by the scope-skeleton oracle of the check.
-/
import TshVerif.Lemmas.Assoc
import TshVerif.Lemmas.ParserPost
namespace Tsh.C07
open Tsh Tsh.Parser

theorem buildName_noPrefix (c : Ctx) {n : String} (hn : n.length ≠ 0) (b1 b2 : Bool) : c.buildName n "" b1 b2 = some n := by
  simp [Ctx.buildName, hn]

theorem addVars_single (ctx : Ctx) (v : Var) (g : Bool) (hn : v.name.length ≠ 0) :
    ctx.addVars "" g [v] = some { ctx with vars := assocSet ctx.vars v.name v } := by
  simp [Ctx.addVars, List.foldlM, buildName_noPrefix _ hn]

/-- registering one variable (main file: no prefix) -/
theorem definition_makes_visible (ctx : Ctx) (v : Var) (g : Bool) (hn : v.name.length ≠ 0) :
    ∃ ctx', ctx.addVars "" g [v] = some ctx' ∧ ctx'.findVar v.name "" g = some v :=
  ⟨_, addVars_single ctx v g hn, by simp [Ctx.findVar, buildName_noPrefix _ hn, assocGet_set_same]⟩

theorem definition_leaves_others (ctx : Ctx) (v : Var) (g : Bool) (hn : v.name.length ≠ 0) (other : String) (ho : other ≠ v.name)
    (hol : other.length ≠ 0) (g' : Bool) :
    ∀ ctx', ctx.addVars "" g [v] = some ctx' → ctx'.findVar other "" g' = ctx.findVar other "" g' := by
  intro ctx' h
  cases (addVars_single ctx v g hn).symm.trans h
  simp [Ctx.findVar, buildName_noPrefix _ hol, assocGet_set_other _ _ _ _ ho]

/-- the variables a function body can see: the filter of `evaluateFunctionDefinition` -/
def functionVars (ctx : Ctx) : List (String × Var) := ctx.vars.filter fun e => e.2.global

/-- that the model checks a function body in this filter is a field of `FuncDefRun` (Lemmas/ParserStmtRuns.lean) -/
theorem function_context_has_only_globals (ctx : Ctx) (k : String) (v : Var) (h : assocGet (functionVars ctx) k = some v) :
    v.global = true := by
  simpa using (List.mem_filter.mp (assocGet_mem h)).2

/-- `Parser.bind_ok` -/
theorem pbind_ok {α β : Type} {x : PM α} {f : α → PM β} {s s'' : PSt} {b : β}
    (h : (x >>= f) s = .ok b s'') : ∃ a s', x s = .ok a s' ∧ f a s' = .ok b s'' := bind_ok h

theorem evalParams_names_nodup (ctx : Ctx) : ∀ (fuel : Nat) (acc : List Var), (acc.map (·.name)).Nodup →
    PostOk (evalParams fuel ctx acc) fun ps => (ps.map (·.name)).Nodup
  | 0, _, _ => .div
  | fuel + 1, acc, hnd => by
    rw [evalParams]
    refine .bindAny fun t => .ite' (fun _ => .pure' hnd) fun _ => .guard fun _ => .bindAny fun _ => .bindAny fun st =>
      .guard fun hdup => .bindAny fun vt => .bindAny fun n => .guard fun _ => ?_
    -- the new name is none of the names collected so far: the `acc.any` test just failed
    have hnew : acc.any (·.name == t.val) = false := (Bool.or_eq_false_iff.mp (Bool.not_eq_true _ ▸ hdup)).2
    have hrec := evalParams_names_nodup ctx fuel (acc ++ [⟨t.val, vt, false, false⟩]) <| by
      rw [List.map_append, List.nodup_append]
      exact ⟨hnd, List.pairwise_singleton _ _, fun a ha b hb => by
        obtain ⟨x, hx, rfl⟩ := List.mem_map.mp ha
        cases List.mem_singleton.mp hb
        exact fun he => List.any_eq_false.mp hnew x hx (beq_iff_eq.mpr he)⟩
    exact .ite' (fun _ => .bindAny fun _ => hrec) fun _ => hrec

/-- **A parameter list never contains a name twice.** -/
theorem parameters_distinct (ctx : Ctx) : ∀ (fuel : Nat) (acc : List Var) (s s' : PSt) (ps : List Var),
    evalParams fuel ctx acc s = .ok ps s' → (acc.map (·.name)).Nodup → (ps.map (·.name)).Nodup :=
  fun fuel acc s s' ps h hnd => evalParams_names_nodup ctx fuel acc hnd s ps s' h

/-- Nothing is stated about `return`. -/
theorem break_continue_return_placement (ctx : Ctx) :
    (ctx.findScope .for_ = false → ctx.findScope .switch_ = false →
      (if ctx.findScope .for_ || ctx.findScope .switch_ then (pure Stmt.brk : PM Stmt) else Parser.err) = Parser.err) ∧
    (ctx.findScope .for_ = false → (if ctx.findScope .for_ then (pure Stmt.cont : PM Stmt) else Parser.err) = Parser.err) ∧
    (∀ sc, (ctx.push sc).findScope sc = true) ∧
    (∀ sc sc', ctx.findScope sc = true → (ctx.push sc').findScope sc = true) := by
  refine ⟨?_, ?_, ?_, ?_⟩
  · intro h1 h2; simp [h1, h2]
  · intro h1; simp [h1]
  · intro sc; simp [Ctx.push, Ctx.findScope]
  · intro sc sc' h; simp only [Ctx.push, Ctx.findScope] at h ⊢; simp; right; simpa using h

end Tsh.C07
