/-
  C15 - std/strings agrees with Go's strings package.

  `Std.Lib.f` is a hand-written rendering of the library function `f` of std/strings.tsh (loop for loop;
  tied to the library by running both on the same arguments in every run);
  `Std.Go.f` is a declarative specification of Go's function on ASCII arguments (tied to the real
  package the same way).  Proved here, for ALL arguments (empty strings, empty separators and substrings
  longer than the string included): `Lib.f = Go.f` for all 19 functions of the library,
      HasPrefix, HasSuffix, Index, Contains, Join, Repeat (count ≥ 0; Go panics below), CutPrefix,
      CutSuffix, TrimPrefix, TrimSuffix, Cut, Count, Split, TrimLeft, TrimRight, Trim, TrimSpace, Replace, ReplaceAll.
  The right-hand functions of the Trim family are the left-hand ones on the reversed string (`trimLoop_mirror`).
-/
import TshVerif.Model.StdStrings
namespace Tsh.C15
open Tsh.Std

theorem slice_zero (s : Str) (n : Nat) : slice s 0 n = s.take n := by simp [slice]
theorem slice_to_end (s : Str) (a : Nat) : slice s a s.length = s.drop a := by simp [slice]

theorem slice_eq_drop_take (s : Str) (a b : Nat) : slice s a b = (s.drop a).take (b - a) := by
  rw [slice, List.drop_take]

theorem slice_self (s : Str) (a : Nat) : slice s a a = [] := by
  rw [slice_eq_drop_take, Nat.sub_self]; rfl

theorem slice_snoc (s : Str) {a b : Nat} (hab : a ≤ b) : slice s a b ++ charAt s b = slice s a (b + 1) := by
  rw [slice_eq_drop_take, slice_eq_drop_take, Nat.succ_sub hab, ← Nat.add_one, List.take_add, List.drop_drop, Nat.add_sub_cancel' hab,
    charAt]

theorem slice_append_drop (s : Str) {a b : Nat} (hab : a ≤ b) : slice s a b ++ s.drop b = s.drop a := by
  rw [slice_eq_drop_take, show s.drop b = (s.drop a).drop (b - a) by rw [List.drop_drop, Nat.add_sub_cancel' hab],
    List.take_append_drop]

theorem isPrefixOf_eq_take (p s : Str) : p.isPrefixOf s = (s.take p.length == p) := by
  rw [Bool.eq_iff_iff, List.isPrefixOf_iff_prefix, List.prefix_iff_eq_take, beq_iff_eq, eq_comm]

theorem isSuffixOf_eq_drop (p s : Str) : p.isSuffixOf s = (s.drop (s.length - p.length) == p) := by
  rw [Bool.eq_iff_iff, List.isSuffixOf_iff_suffix, List.suffix_iff_eq_drop, beq_iff_eq, eq_comm]

theorem slice_is_prefix_test (s sep : Str) (e : Nat) :
    (slice s e (e + sep.length) == sep) = sep.isPrefixOf (s.drop e) := by
  rw [isPrefixOf_eq_take, slice_eq_drop_take, Nat.add_sub_cancel_left]

theorem beq_false_of_length_ne {x p : Str} (h : x.length ≠ p.length) : (x == p) = false :=
  beq_false_of_ne fun e => h (congrArg _ e)

theorem hasPrefix_eq (s p : Str) : Lib.hasPrefix s p = Go.hasPrefix s p := by
  unfold Lib.hasPrefix Go.hasPrefix
  rw [isPrefixOf_eq_take, slice_zero]
  split
  · rfl
  · exact (beq_false_of_length_ne (by rw [List.length_take]; omega)).symm

theorem hasSuffix_eq (s p : Str) : Lib.hasSuffix s p = Go.hasSuffix s p := by
  unfold Lib.hasSuffix Go.hasSuffix
  rw [isSuffixOf_eq_drop, slice_to_end]
  split
  · rfl
  · exact (beq_false_of_length_ne (by rw [List.length_drop]; omega)).symm

theorem length_beq_zero (l : Str) : (l.length == 0) = l.isEmpty := by
  cases l <;> rfl

theorem charAt_of_lt {s : Str} {i : Nat} (h : i < s.length) : charAt s i = [s[i]] := by
  rw [charAt, List.drop_eq_getElem_cons h]; rfl

theorem charAt_of_le {s : Str} {i : Nat} (h : s.length ≤ i) : charAt s i = [] := by
  rw [charAt, List.drop_eq_nil_of_le h]; rfl

theorem fuel_step {i f : Nat} : i + (f + 1) = i + 1 + f := Nat.add_right_comm i f 1

theorem isPrefixOf_drop_step (s : Str) {sub : Str} {j : Nat} (hlt : j < sub.length) (k : Nat) :
    (sub.drop j).isPrefixOf (s.drop k) =
      (charAt s k == charAt sub j && (sub.drop (j + 1)).isPrefixOf (s.drop (k + 1))) := by
  rw [charAt, charAt_of_lt hlt, ← List.tail_drop (l := s), List.drop_eq_getElem_cons hlt]
  cases s.drop k with
  | nil => rfl
  | cons y a => simp [List.isPrefixOf, BEq.comm (a := y)]

theorem innerMatch_spec (s sub : Str) (i f j : Nat) (hf : sub.length ≤ j + f) (hj : j ≤ sub.length) :
    (Lib.innerMatch s sub i f j == sub.length) = (sub.drop j).isPrefixOf (s.drop (i + j)) := by
  fun_induction Lib.innerMatch s sub i f j with
  | case1 j => cases Nat.le_antisymm hj hf; simp
  | case2 f j hlt hne =>
    rw [isPrefixOf_drop_step s hlt, beq_false_of_ne (bne_iff_ne.mp hne)]
    simpa using Nat.ne_of_lt hlt
  | case3 f j hlt heq ih =>
    rw [ih (fuel_step ▸ hf) hlt, isPrefixOf_drop_step s hlt, Nat.add_assoc, Decidable.not_not.mp (mt bne_iff_ne.mpr heq),
      beq_self_eq_true, Bool.true_and]
  | case4 f j hlt => cases Nat.le_antisymm hj (Nat.le_of_not_lt hlt); simp

theorem innerMatch_full (s sub : Str) (i : Nat) :
    (Lib.innerMatch s sub i sub.length 0 == sub.length) = sub.isPrefixOf (s.drop i) :=
  innerMatch_spec s sub i sub.length 0 (Nat.le_add_left ..) (Nat.zero_le _)

theorem innerMatch_le (s sub : Str) (i f j : Nat) (hj : j ≤ sub.length) : Lib.innerMatch s sub i f j ≤ sub.length := by
  fun_induction Lib.innerMatch s sub i f j with
  | case3 f j hlt heq ih => exact ih hlt
  | _ => exact hj

theorem indexFrom_nil (s : Str) (off : Nat) : Go.indexFrom [] s off = off := by
  cases s <;> rfl

theorem indexFrom_nil_right {sub : Str} (h : sub ≠ []) (off : Nat) : Go.indexFrom sub [] off = -1 := by
  cases sub with
  | nil => exact absurd rfl h
  | cons c t => rfl

theorem indexLoop_spec (s sub : Str) (hsub : sub ≠ []) (f i : Nat) (hf : s.length ≤ i + f) :
    Lib.indexLoop s sub f i = Go.indexFrom sub (s.drop i) i := by
  fun_induction Lib.indexLoop s sub f i with
  | case1 i => rw [List.drop_eq_nil_of_le (as := s) (i := i) hf, indexFrom_nil_right hsub]
  | case2 f i hlt hm =>
    -- the rest read as `s[i] :: s.drop (i + 1)` lets `Go.indexFrom` take its step; then it is `s.drop i` again
    rw [List.drop_eq_getElem_cons hlt, Go.indexFrom, ← List.drop_eq_getElem_cons hlt, if_pos (innerMatch_full .. ▸ hm)]
  | case3 f i hlt hm ih =>
    rw [List.drop_eq_getElem_cons hlt, Go.indexFrom, ← List.drop_eq_getElem_cons hlt, if_neg (innerMatch_full .. ▸ hm),
      ih (fuel_step ▸ hf)]
  | case4 f i hlt => rw [List.drop_eq_nil_of_le (Nat.le_of_not_lt hlt), indexFrom_nil_right hsub]

theorem index_eq (s sub : Str) : Lib.index s sub = Go.index s sub := by
  unfold Lib.index Go.index
  rw [length_beq_zero]
  split
  · next h => rw [List.isEmpty_iff.mp h, indexFrom_nil]; rfl
  · next h => exact indexLoop_spec s sub (fun e => h (e ▸ rfl)) s.length 0 (Nat.le_add_left ..)

theorem contains_eq (s sub : Str) : Lib.contains s sub = Go.contains s sub := by
  unfold Lib.contains Go.contains; rw [index_eq]

theorem cutPrefix_eq (s p : Str) : Lib.cutPrefix s p = Go.cutPrefix s p := by
  unfold Lib.cutPrefix Go.cutPrefix
  rw [hasPrefix_eq, slice_to_end]; rfl

theorem cutSuffix_eq (s p : Str) : Lib.cutSuffix s p = Go.cutSuffix s p := by
  unfold Lib.cutSuffix Go.cutSuffix
  rw [hasSuffix_eq, slice_zero]; rfl

theorem trimPrefix_eq (s p : Str) : Lib.trimPrefix s p = Go.trimPrefix s p := by
  unfold Lib.trimPrefix Go.trimPrefix; rw [cutPrefix_eq]
theorem trimSuffix_eq (s p : Str) : Lib.trimSuffix s p = Go.trimSuffix s p := by
  unfold Lib.trimSuffix Go.trimSuffix; rw [cutSuffix_eq]

theorem cut_eq (s sep : Str) : Lib.cut s sep = Go.cut s sep := by
  unfold Lib.cut Go.cut
  rw [index_eq]
  simp only [slice_zero, slice_to_end]

theorem hasPrefix_at (s sub : Str) (i : Nat) : Lib.hasPrefix (slice s i s.length) sub = sub.isPrefixOf (s.drop i) := by
  rw [hasPrefix_eq, slice_to_end]; rfl

theorem add_length_le_of_isPrefixOf {s sub : Str} {i : Nat} (hi : i ≤ s.length) (h : sub.isPrefixOf (s.drop i) = true) :
    i + sub.length ≤ s.length := by
  have := (List.isPrefixOf_iff_prefix.mp h).length_le
  rw [List.length_drop] at this
  omega

theorem countLoop_spec (s sub : Str) (f i c : Nat) (hi : i ≤ s.length) :
    Lib.countLoop s sub f i c = c + Go.countFrom sub f (s.drop i) := by
  fun_induction Lib.countLoop s sub f i c with
  | case1 i c => rfl
  | case2 f i c hlt hp ih =>
    rw [hasPrefix_at] at hp
    rw [List.drop_eq_getElem_cons hlt, Go.countFrom, ← List.drop_eq_getElem_cons hlt, if_pos hp, List.drop_drop,
      ih (add_length_le_of_isPrefixOf hi hp), Nat.add_assoc]
  | case3 f i c hlt hp ih =>
    rw [hasPrefix_at] at hp
    rw [List.drop_eq_getElem_cons hlt, Go.countFrom, ← List.drop_eq_getElem_cons hlt, if_neg hp, ih hlt]
  | case4 f i c hlt => rw [List.drop_eq_nil_of_le (Nat.le_of_not_lt hlt)]; rfl

theorem count_eq (s sub : Str) : Lib.count s sub = Go.count s sub := by
  unfold Lib.count Go.count
  rw [length_beq_zero]
  split
  · rfl
  · rw [countLoop_spec _ _ _ _ _ (Nat.zero_le _), Nat.zero_add]; rfl

theorem joinLoop_spec (elems : List Str) (sep : Str) (f i : Nat) (acc : Str) (hf : elems.length ≤ i + f) :
    Lib.joinLoop elems sep elems.length f i acc = acc ++ sep.intercalate (elems.drop i) := by
  fun_induction Lib.joinLoop elems sep elems.length f i acc with
  | case1 i acc => rw [List.drop_eq_nil_of_le (as := elems) (i := i) hf]; exact (List.append_nil _).symm
  | case2 f i acc hlt acc1 acc2 ih =>
    have hg : elems.getD i [] = elems[i] := by rw [List.getD_eq_getElem?_getD, List.getElem?_eq_getElem hlt]; rfl
    rw [ih (fuel_step ▸ hf), List.drop_eq_getElem_cons hlt]
    by_cases hl : i < elems.length - 1
    · rw [List.drop_eq_getElem_cons (Nat.add_lt_of_lt_sub hl), List.intercalate_cons_cons]
      simp only [acc2, acc1, if_pos hl, hg, List.append_assoc]
    · rw [List.drop_eq_nil_of_le (Nat.le_add_of_sub_le (Nat.le_of_not_lt hl))]
      simp only [acc2, acc1, if_neg hl, hg, List.append_assoc]; rfl
  | case3 f i acc hlt => rw [List.drop_eq_nil_of_le (Nat.le_of_not_lt hlt)]; exact (List.append_nil _).symm

theorem join_eq (elems : List Str) (sep : Str) : Lib.join elems sep = Go.join elems sep :=
  joinLoop_spec elems sep elems.length 0 [] (Nat.le_add_left ..)

/-- with `d` rounds to go -/
theorem repeatLoop_spec (s : Str) (f k d : Nat) (acc : Str) (hf : d ≤ f) :
    Lib.repeatLoop s (d + k : Nat) f k acc = acc ++ (List.replicate d s).flatten := by
  induction f generalizing k d acc with
  | zero => cases Nat.le_zero.mp hf; exact (List.append_nil _).symm
  | succ f ih =>
    rw [Lib.repeatLoop]
    cases d with
    | zero => rw [Nat.zero_add, if_neg (Int.lt_irrefl _)]; exact (List.append_nil _).symm
    | succ d =>
      rw [if_pos (Int.ofNat_lt.mpr (Nat.lt_add_of_pos_left (Nat.succ_pos d))), ← Int.natCast_succ, Nat.succ_add_eq_add_succ,
        ih _ _ _ (Nat.le_of_succ_le_succ hf), List.replicate_succ, List.flatten_cons, List.append_assoc]

/-- **Repeat** (Go panics for a negative count; the library returns "") -/
theorem repeat_eq (s : Str) (count : Int) (h : 0 ≤ count) : Go.repeat_ s count = some (Lib.repeat_ s count) := by
  obtain ⟨n, rfl⟩ := Int.eq_ofNat_of_zero_le h
  unfold Go.repeat_ Lib.repeat_
  rw [if_neg (Int.not_lt.mpr h), Int.toNat_natCast]
  exact congrArg some (repeatLoop_spec s n 0 n [] (Nat.le_refl _)).symm

theorem store_dense (elems : List Str) (v : Str) : Lib.store elems elems.length v = elems ++ [v] := by
  simp [Lib.store]

theorem splitFrom_short (sep : Str) (f : Nat) (cur rest : Str) (hs : rest.length < sep.length) (hf : rest.length < f) :
    Go.splitFrom sep f cur rest = [cur ++ rest] := by
  induction rest generalizing f cur with
  | nil => cases f with
    | zero => cases hf
    | succ f => rw [List.append_nil]; rfl
  | cons c t ih =>
    obtain ⟨f, rfl⟩ : ∃ g, f = g + 1 := ⟨f - 1, by omega⟩
    have hnp : ¬ sep.isPrefixOf (c :: t) = true := fun hp =>
      Nat.not_le_of_lt hs (List.isPrefixOf_iff_prefix.mp hp).length_le
    rw [Go.splitFrom, if_neg hnp, ih _ _ (Nat.lt_of_succ_lt hs) (Nat.lt_of_succ_lt_succ hf), List.append_assoc]; rfl

theorem length_drop_lt {s : Str} {e n : Nat} (he : e ≤ s.length) (h : s.length < e + n) : (s.drop e).length < n := by
  rw [List.length_drop]; omega

/-- The left side is the list `Lib.split` builds from what the loop returns.  `f` is the fuel of BOTH sides (`Go.splitFrom`
    counts its steps with it too); every round moves `endI` forward and the loop ends behind `s.length`, so the `s.length + 1`
    that `Lib.split` and `Go.split` start with is enough: that is `hf`.  The Replace loops share their fuel the same way. -/
theorem splitLoop_spec (s sep : Str) (hsep : sep ≠ []) (f startI endI k : Nat) (elems : List Str)
    (hk : elems.length = k) (hse : startI ≤ endI) (hel : endI ≤ s.length) (hf : s.length < endI + f) :
    Lib.store (Lib.splitLoop s sep f startI endI k elems).1 (Lib.splitLoop s sep f startI endI k elems).2.2
        (slice s (Lib.splitLoop s sep f startI endI k elems).2.1 s.length) =
      elems ++ Go.splitFrom sep f (slice s startI endI) (s.drop endI) := by
  have hsl : 0 < sep.length := List.length_pos_iff.mpr hsep
  fun_induction Lib.splitLoop s sep f startI endI k elems with
  | case1 startI endI k elems => exact absurd hf (Nat.not_lt.mpr hel)
  | case2 f startI endI k elems hc hp ih =>
    have hlt : endI < s.length := Nat.lt_of_lt_of_le (Nat.lt_add_of_pos_right hsl) hc
    rw [slice_is_prefix_test] at hp
    subst hk
    rw [ih (by rw [store_dense, List.length_append]; rfl) (Nat.le_refl _) hc
        (Nat.lt_of_lt_of_le hf (Nat.add_right_comm .. ▸ Nat.add_le_add_left hsl _)), store_dense,
      List.drop_eq_getElem_cons hlt, Go.splitFrom, ← List.drop_eq_getElem_cons hlt, if_pos hp, List.drop_drop, slice_self,
      List.append_assoc]; rfl
  | case3 f startI endI k elems hc hp ih =>
    have hlt : endI < s.length := Nat.lt_of_lt_of_le (Nat.lt_add_of_pos_right hsl) hc
    rw [slice_is_prefix_test] at hp
    rw [ih hk (Nat.le_succ_of_le hse) hlt (fuel_step ▸ hf), List.drop_eq_getElem_cons hlt, Go.splitFrom,
      ← List.drop_eq_getElem_cons hlt, if_neg hp, ← charAt_of_lt hlt, slice_snoc s hse]
  | case4 f startI endI k elems hc =>
    subst hk
    rw [store_dense, splitFrom_short sep _ _ _ (length_drop_lt hel (Nat.lt_of_not_le hc)) (length_drop_lt hel hf),
      slice_append_drop s hse, slice_to_end]

theorem splitChars_spec (s : Str) (f i : Nat) (elems : List Str) (hk : elems.length = i) (hf : s.length ≤ i + f) :
    Lib.splitChars s f i elems = elems ++ (s.drop i).map (fun c => [c]) := by
  fun_induction Lib.splitChars s f i elems with
  | case1 i elems => rw [List.drop_eq_nil_of_le (as := s) (i := i) hf]; exact (List.append_nil _).symm
  | case2 f i elems hlt ih =>
    subst hk
    rw [ih (by rw [store_dense, List.length_append]; rfl) (fuel_step ▸ hf), store_dense, List.drop_eq_getElem_cons hlt,
      charAt_of_lt hlt, List.append_assoc]; rfl
  | case3 f i elems hlt => rw [List.drop_eq_nil_of_le (Nat.le_of_not_lt hlt)]; exact (List.append_nil _).symm

theorem split_eq (s sep : Str) : Lib.split s sep = Go.split s sep := by
  unfold Lib.split Go.split
  rw [length_beq_zero]
  split
  · exact splitChars_spec s s.length 0 [] rfl (Nat.le_add_left ..)
  · next h =>
    have := splitLoop_spec s sep (fun e => h (e ▸ rfl)) (s.length + 1) 0 0 0 [] rfl (Nat.le_refl _) (Nat.zero_le _)
      (Nat.zero_add _ ▸ Nat.lt_succ_self _)
    rwa [slice_self] at this

theorem cutPrefix_single (s : Str) (c : Char) :
    (∃ tl, s = c :: tl ∧ Lib.cutPrefix s [c] = (tl, true)) ∨ (s.head? ≠ some c ∧ Lib.cutPrefix s [c] = (s, false)) := by
  rw [cutPrefix_eq, Go.cutPrefix]
  cases s with
  | nil => exact .inr ⟨nofun, rfl⟩
  | cons h tl =>
    by_cases hc : c = h
    · subst hc; exact .inl ⟨tl, rfl, by simp [List.isPrefixOf]⟩
    · exact .inr ⟨fun e => hc (Option.some.inj e).symm, by simp [List.isPrefixOf, hc]⟩

/-- once the flag is up it stays up, whatever the cut function -/
theorem trimPass_flag_true (cutF : Str → Str → Str × Bool) (cutset : Str) : ∀ (f i : Nat) (s : Str),
    (Lib.trimPass cutF cutset f i s true).2 = true := by
  intro f
  induction f with
  | zero => exact fun _ _ => rfl
  | succ f ih =>
    intro i s
    rw [Lib.trimPass]
    split
    · exact ih ..
    · rfl

/-- what one pass with `CutPrefix` over the cutset from index `i` on turns `(s, t)` into -/
def PassOk (cutset : Str) (i : Nat) (s : Str) (t : Bool) (r : Str × Bool) : Prop :=
  (r = (s, t) ∧ ∀ j (hj : j < cutset.length), i ≤ j → s.head? ≠ some cutset[j]) ∨
  (r.2 = true ∧ r.1.length < s.length ∧ r.1.dropWhile (cutset.contains ·) = s.dropWhile (cutset.contains ·))

theorem PassOk.stop {cutset : Str} {i : Nat} (h : cutset.length ≤ i) (s : Str) (t : Bool) : PassOk cutset i s t (s, t) :=
  .inl ⟨rfl, fun _ hj hij => absurd (Nat.lt_of_lt_of_le hj h) (Nat.not_lt.mpr hij)⟩

theorem trimPass_prefix_spec (cutset : Str) (f i : Nat) (s : Str) (t : Bool) (hf : cutset.length ≤ i + f) :
    PassOk cutset i s t (Lib.trimPass Lib.cutPrefix cutset f i s t) := by
  fun_induction Lib.trimPass Lib.cutPrefix cutset f i s t with
  | case1 i s t => exact .stop hf s t
  | case2 f i s t hlt s' c hcut ih =>
    have ih := ih (fuel_step ▸ hf)
    rw [charAt_of_lt hlt] at hcut
    rcases cutPrefix_single s cutset[i] with ⟨tl, rfl, e⟩ | ⟨hne, e⟩
    · have hd := List.dropWhile_cons_of_pos (l := tl) (List.contains_iff_mem.mpr (List.getElem_mem hlt))
      cases e.symm.trans hcut
      rw [Bool.or_true] at ih ⊢
      -- the head went; whatever the rest of the pass does to `tl`
      rcases ih with ⟨e, _⟩ | ⟨h2, hl, hdw⟩
      · exact .inr ⟨e ▸ rfl, e ▸ Nat.lt_succ_self _, e ▸ hd.symm⟩
      · exact .inr ⟨h2, Nat.lt_succ_of_lt hl, hdw.trans hd.symm⟩
    · cases e.symm.trans hcut
      rw [Bool.or_false] at ih ⊢
      exact ih.imp_left fun ⟨e, h⟩ => ⟨e, fun j hj hij => (Nat.eq_or_lt_of_le hij).elim (fun e => e ▸ hne) (h j hj)⟩
  | case3 f i s t hlt => exact .stop (Nat.le_of_not_lt hlt) s t

theorem trimLoop_prefix_spec (cutset : Str) (f : Nat) (s : Str) (hf : s.length < f) :
    Lib.trimLoop Lib.cutPrefix cutset f s = s.dropWhile (cutset.contains ·) := by
  fun_induction Lib.trimLoop Lib.cutPrefix cutset f s with
  | case1 s => cases hf
  | case2 f s s' c hpass hc =>
    rcases hpass ▸ trimPass_prefix_spec cutset cutset.length 0 s false (Nat.le_add_left ..) with ⟨e, hall⟩ | ⟨h, _⟩
    · cases e
      -- nothing changed: no character of the cutset heads the string
      cases s with
      | nil => rfl
      | cons h tl =>
        refine (List.dropWhile_cons_of_neg fun hm => ?_).symm
        obtain ⟨j, hj, rfl⟩ := List.mem_iff_getElem.mp (List.contains_iff_mem.mp hm)
        exact hall j hj (Nat.zero_le _) rfl
    · rw [show c = true from h] at hc
      cases hc
  | case3 f s s' c hpass hc ih =>
    rcases hpass ▸ trimPass_prefix_spec cutset cutset.length 0 s false (Nat.le_add_left ..) with ⟨e, _⟩ | ⟨_, hl, hdw⟩
    · cases e
      cases hc rfl
    · rw [ih (Nat.lt_of_lt_of_le hl (Nat.le_of_lt_succ hf))]; exact hdw

theorem dropWhile_false (l : Str) : l.dropWhile (fun _ => false) = l := by
  cases l <;> rfl

/-- the guard of TrimLeft and TrimRight only skips work -/
theorem trim_guard (s cutset : Str) {x : Str} (hs : s = [] → x = s) (hc : cutset = [] → x = s) :
    (if s.length > 0 && cutset.length > 0 then x else s) = x := by
  by_cases h1 : s = []
  · rw [hs h1, ite_self]
  by_cases h2 : cutset = []
  · rw [hc h2, ite_self]
  · exact if_pos (by simp [List.length_pos_iff, h1, h2])

theorem trimLeft_eq (s cutset : Str) : Lib.trimLeft s cutset = Go.trimLeft s cutset := by
  unfold Lib.trimLeft Go.trimLeft
  rw [trimLoop_prefix_spec cutset _ s (Nat.lt_succ_self _)]
  exact trim_guard s cutset (fun h => h ▸ rfl) (fun h => h ▸ dropWhile_false s)

theorem cutSuffix_rev (s : Str) (c : Char) :
    Lib.cutSuffix s [c] = ((Lib.cutPrefix s.reverse [c]).1.reverse, (Lib.cutPrefix s.reverse [c]).2) := by
  -- `isSuffixOf` is defined as `isPrefixOf` on the reversed lists
  have hsuf : ([c] : Str).isSuffixOf s = ([c] : Str).isPrefixOf s.reverse := rfl
  rw [cutSuffix_eq, cutPrefix_eq, Go.cutSuffix, Go.cutPrefix, hsuf]
  split
  · rw [List.drop_reverse, List.reverse_reverse]
  · rw [List.reverse_reverse]

section mirror
variable (cutset : Str) (cutF cutF' : Str → Str → Str × Bool)
  (hrel : ∀ s i, i < cutset.length →
    cutF' s (charAt cutset i) = ((cutF s.reverse (charAt cutset i)).1.reverse, (cutF s.reverse (charAt cutset i)).2))
include hrel

theorem trimPass_mirror (f i : Nat) (s : Str) (t : Bool) :
    Lib.trimPass cutF' cutset f i s t =
      ((Lib.trimPass cutF cutset f i s.reverse t).1.reverse, (Lib.trimPass cutF cutset f i s.reverse t).2) := by
  fun_induction Lib.trimPass cutF' cutset f i s t with
  | case1 i s t => rw [Lib.trimPass, List.reverse_reverse]
  | case2 f i s t hlt s' c hcut ih =>
    rw [hrel s i hlt] at hcut
    cases hcut
    rw [ih, Lib.trimPass, if_pos hlt, List.reverse_reverse]
  | case3 f i s t hlt => rw [Lib.trimPass, if_neg hlt, List.reverse_reverse]

theorem trimLoop_mirror (f : Nat) (s : Str) :
    Lib.trimLoop cutF' cutset f s = (Lib.trimLoop cutF cutset f s.reverse).reverse := by
  induction f generalizing s with
  | zero => rw [Lib.trimLoop, Lib.trimLoop, List.reverse_reverse]
  | succ f ih =>
    rw [Lib.trimLoop, Lib.trimLoop, trimPass_mirror cutset cutF cutF' hrel]
    generalize Lib.trimPass cutF cutset cutset.length 0 s.reverse false = r
    obtain ⟨s', t⟩ := r
    cases t
    · rfl
    · exact (ih _).trans (by rw [List.reverse_reverse]; rfl)

end mirror

theorem trimLoop_rev (cutset : Str) (cutF cutF' : Str → Str → Str × Bool)
    (hrel : ∀ s x, cutF' s x = ((cutF s.reverse x).1.reverse, (cutF s.reverse x).2)) :
    ∀ (f : Nat) (s : Str), Lib.trimLoop cutF' cutset f s = (Lib.trimLoop cutF cutset f s.reverse).reverse :=
  trimLoop_mirror cutset cutF cutF' fun s _ _ => hrel s _

theorem charAt_single_or_nil (cutset : Str) (i : Nat) : ∃ c, charAt cutset i = [c] ∨ charAt cutset i = [] := by
  by_cases h : i < cutset.length
  · exact ⟨cutset[i], Or.inl (charAt_of_lt h)⟩
  · exact ⟨' ', Or.inr (charAt_of_le (Nat.le_of_not_lt h))⟩

theorem trimRight_eq (s cutset : Str) : Lib.trimRight s cutset = Go.trimRight s cutset := by
  unfold Lib.trimRight Go.trimRight
  rw [trimLoop_mirror cutset Lib.cutPrefix Lib.cutSuffix (fun s i hi => by rw [charAt_of_lt hi]; exact cutSuffix_rev s _),
    trimLoop_prefix_spec cutset _ s.reverse (by rw [List.length_reverse]; exact Nat.lt_succ_self _)]
  exact trim_guard s cutset (fun h => h ▸ rfl) (fun h => h ▸ (congrArg List.reverse (dropWhile_false s.reverse)).trans (List.reverse_reverse s))

theorem trim_eq (s cutset : Str) : Lib.trim s cutset = Go.trim s cutset := by
  unfold Lib.trim Go.trim; rw [trimLeft_eq, trimRight_eq]

theorem trimSpace_eq (s : Str) : Lib.trimSpace s = Go.trimSpace s := by
  unfold Lib.trimSpace Go.trimSpace; rw [trim_eq]

/-- The loop's test `i < len(s) && (rep < n || n < 0)` in Go's terms: `n - rep` replacements are left (all, if negative). -/
theorem replaceLoop_test {s : Str} {n rep : Int} {i : Nat} (hr : 0 ≤ rep) (hn : 0 ≤ n → rep ≤ n) :
    (decide (i < s.length) && (decide (rep < n) || decide (n < 0))) = true ↔ i < s.length ∧ n - rep ≠ 0 := by
  simp only [Bool.and_eq_true, Bool.or_eq_true, decide_eq_true_eq]
  omega

theorem budget_step {n rep : Int} (hn : 0 ≤ n → rep ≤ n) (hb : n - rep ≠ 0) : 0 ≤ n → rep + 1 ≤ n := by
  omega

theorem replaceFrom_zero (old new : Str) (f : Nat) (l : Str) : Go.replaceFrom old new f 0 l = l := by
  cases f <;> rfl

theorem replaceFrom_nil (old new : Str) (f : Nat) (m : Int) : Go.replaceFrom old new f m [] = [] := by
  cases f with
  | zero => rfl
  | succ f => rw [Go.replaceFrom]; split <;> rfl

theorem replaceLoop_nonempty_spec (s old new : Str) (n : Int) (hold : old ≠ []) (f i : Nat) (rep : Int) (res : Str)
    (hi : i ≤ s.length) (hr : 0 ≤ rep) (hn : 0 ≤ n → rep ≤ n) :
    (Lib.replaceLoop s old new n f i rep res).1 ++ slice s (Lib.replaceLoop s old new n f i rep res).2 s.length =
      res ++ Go.replaceFrom old new f (n - rep) (s.drop i) := by
  fun_induction Lib.replaceLoop s old new n f i rep res with
  | case1 i rep res => rw [slice_to_end]; rfl
  | case2 f i rep res hc he ih => exact absurd (List.isEmpty_iff.mp (length_beq_zero old ▸ he)) hold
  | case3 f i rep res hc he hp ih =>
    obtain ⟨hlt, hb⟩ := (replaceLoop_test hr hn).mp hc
    rw [hasPrefix_at] at hp
    rw [ih (add_length_le_of_isPrefixOf hi hp) (Int.le_add_one hr) (budget_step hn hb), List.drop_eq_getElem_cons hlt,
      Go.replaceFrom, ← List.drop_eq_getElem_cons hlt, if_neg (mt eq_of_beq hb), if_pos hp,
      List.drop_drop, Int.sub_sub, List.append_assoc]
  | case4 f i rep res hc he hp ih =>
    obtain ⟨hlt, hb⟩ := (replaceLoop_test hr hn).mp hc
    rw [hasPrefix_at] at hp
    rw [ih hlt hr hn, List.drop_eq_getElem_cons hlt, Go.replaceFrom, ← List.drop_eq_getElem_cons hlt,
      if_neg (mt eq_of_beq hb), if_neg hp, charAt_of_lt hlt, List.append_assoc]; rfl
  | case5 f i rep res hc =>
    rw [slice_to_end]
    by_cases hlt : i < s.length
    · rw [Decidable.not_not.mp fun hb => hc ((replaceLoop_test hr hn).mpr ⟨hlt, hb⟩), replaceFrom_zero]
    · rw [List.drop_eq_nil_of_le (Nat.le_of_not_lt hlt), replaceFrom_nil]

theorem replaceEmpty_zero (new l : Str) : Go.replaceEmpty new 0 l = l := by
  cases l <;> rfl

theorem replaceEmpty_nil (new : Str) {m : Int} (hm : m ≠ 0) : Go.replaceEmpty new m [] = new := by
  rw [Go.replaceEmpty, if_neg (by simpa using hm)]

theorem replaceEmpty_one (new l : Str) : Go.replaceEmpty new 1 l = new ++ l := by
  cases l with
  | nil => exact (List.append_nil _).symm
  | cons c t => rw [Go.replaceEmpty, if_neg (by decide), Int.sub_self, replaceEmpty_zero]

/-- With an empty `old` the result so far ends with the `new` that goes in front of the next character, and `rep`
    counts that one already.  `Go.replaceEmpty` has no fuel, so here the loop's own must suffice (`hf`). -/
theorem replaceLoop_empty_spec (s new : Str) (n : Int) (f i : Nat) (rep : Int) (res r : Str) (hres : res = r ++ new)
    (hf : s.length ≤ i + f) (hr : 0 ≤ rep) (hn : 0 ≤ n → rep ≤ n) (hm : n - rep + 1 ≠ 0) :
    (Lib.replaceLoop s [] new n f i rep res).1 ++ slice s (Lib.replaceLoop s [] new n f i rep res).2 s.length =
      r ++ Go.replaceEmpty new (n - rep + 1) (s.drop i) := by
  fun_induction Lib.replaceLoop s [] new n f i rep res generalizing r with
  | case1 i rep res =>
    rw [slice_to_end, List.drop_eq_nil_of_le (as := s) (i := i) hf, replaceEmpty_nil _ hm, hres, List.append_nil]
  | case2 f i rep res hc _ ih =>
    obtain ⟨hlt, hb⟩ := (replaceLoop_test hr hn).mp hc
    rw [ih (r ++ new ++ charAt s i) (by rw [hres]) (fuel_step ▸ hf) (Int.le_add_one hr) (budget_step hn hb)
        (by rwa [← Int.sub_sub, Int.sub_add_cancel]),
      List.drop_eq_getElem_cons hlt, Go.replaceEmpty, if_neg (by simpa using hm), Int.add_sub_cancel, charAt_of_lt hlt,
      ← Int.sub_sub, Int.sub_add_cancel]
    simp only [List.append_assoc, List.singleton_append]
  | case3 f i rep res hc he => cases he rfl
  | case4 f i rep res hc he => cases he rfl
  | case5 f i rep res hc =>
    rw [slice_to_end, hres, List.append_assoc]
    by_cases hlt : i < s.length
    · rw [Decidable.not_not.mp fun hb => hc ((replaceLoop_test hr hn).mpr ⟨hlt, hb⟩), Int.zero_add,
        replaceEmpty_one]
    · rw [List.drop_eq_nil_of_le (Nat.le_of_not_lt hlt), replaceEmpty_nil _ hm, List.append_nil]

theorem replace_eq (s old new : Str) (n : Int) : Lib.replace s old new n = Go.replace s old new n := by
  unfold Lib.replace Go.replace
  rw [length_beq_zero]
  cases hold : old.isEmpty with
  | true =>
    cases List.isEmpty_iff.mp hold
    by_cases hn : n = 0
    · subst hn
      rw [replaceEmpty_zero, if_pos rfl, if_neg (by decide)]
      dsimp only
      rw [Lib.replaceLoop, if_neg fun h => ((replaceLoop_test (Int.le_refl 0) id).mp h).2 rfl]
      exact slice_to_end s 0
    · rw [Bool.true_and, if_pos (by simpa using hn), if_pos rfl]
      have := replaceLoop_empty_spec s new n (s.length + 1) 0 1 new [] rfl (Nat.zero_add _ ▸ Nat.le_succ _) Int.one_nonneg
        (by omega) (by rwa [Int.sub_add_cancel])
      rwa [Int.sub_add_cancel] at this
  | false =>
    rw [Bool.false_and, if_neg Bool.false_ne_true, if_neg Bool.false_ne_true]
    have := replaceLoop_nonempty_spec s old new n (fun e => by rw [e] at hold; cases hold) (s.length + 1) 0 0 []
      (Nat.zero_le _) (Int.le_refl _) id
    rwa [Int.sub_zero] at this

theorem replaceAll_eq (s old new : Str) : Lib.replaceAll s old new = Go.replaceAll s old new := by
  unfold Lib.replaceAll Go.replaceAll; rw [replace_eq]

example : Lib.index "hello".toList "ll".toList = 2 ∧ Lib.index "hello".toList "".toList = 0 ∧ Lib.index "".toList "x".toList = -1 := by decide +kernel
example : Lib.join ["a".toList, "".toList, "b".toList] ", ".toList = "a, , b".toList := by decide +kernel

end Tsh.C15
