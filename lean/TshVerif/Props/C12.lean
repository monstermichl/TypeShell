/-
  C12 - Program meaning is independent of layout: what the lexer model guarantees.
  (i) LF versus CRLF line ends cannot be observed by anything after CRLF normalisation;
  (ii) blanks and comments never reach the parser: the token list handed to the parser is a function
       of the kept lexemes and the end position;
  (iii) positions never influence what is lexed, and a step of the lexer loop that takes a space, a tab, a complete
       block comment or a line comment up to its line break yields the kept (type, value) sequence of the loop
       continued behind it FROM THE SAME STATE (last kept type, accumulator).  That the loop reaches the same state
       in front of inserted layout as without it - needed for an insertion at an arbitrary lexeme boundary of a
       whole input - is not proved.
  The parser-level part (blank and comment-only lines at existing line breaks) is decided by the
  correspondence and the re-layout oracle of the check (DESIGN.md, C12).
-/
import TshVerif.Lemmas.Lexer
namespace Tsh.C12
open Tsh Tsh.Lexer Tsh.LexTables

def toCRLF : Bytes → Bytes
  | [] => []
  | b :: rest => if b = 10 then 13 :: 10 :: toCRLF rest else b :: toCRLF rest

theorem normCRLF_cons_of_ne {b : UInt8} (hb : b ≠ 13) (t : Bytes) : normCRLF (b :: t) = b :: normCRLF t := by
  rw [normCRLF]
  exact fun _ h => absurd h hb

theorem normCRLF_id_of_noCR : ∀ (s : Bytes), (∀ b ∈ s, b ≠ 13) → normCRLF s = s
  | [], _ => rfl
  | b :: t, h => by
    rw [normCRLF_cons_of_ne (h b List.mem_cons_self), normCRLF_id_of_noCR t fun x hx => h x (List.mem_cons_of_mem _ hx)]

theorem normCRLF_toCRLF : ∀ (s : Bytes), (∀ b ∈ s, b ≠ 13) → normCRLF (toCRLF s) = s
  | [], _ => rfl
  | b :: t, h => by
    have ih := normCRLF_toCRLF t fun x hx => h x (List.mem_cons_of_mem _ hx)
    rw [toCRLF]
    split
    · next h10 => rw [normCRLF, ih, h10]
    · rw [normCRLF_cons_of_ne (h b List.mem_cons_self), ih]

/-- **LF versus CRLF**: writing a program with CRLF line ends gives exactly the same lexemes, tokens
    and positions as writing it with LF line ends. -/
theorem relayout_crlf (s : Bytes) (h : ∀ b ∈ s, b ≠ 13) :
    tokenizeTrace (toCRLF s) = tokenizeTrace s ∧ tokenize (toCRLF s) = tokenize s := by
  have h1 : tokenizeTrace (toCRLF s) = tokenizeTrace s := by
    simp [tokenizeTrace, normCRLF_toCRLF s h, normCRLF_id_of_noCR s h]
  exact ⟨h1, by simp [tokenize, h1]⟩

/-- **Blanks and comments never reach the parser**: no token of the token list is a SPACE or COMMENT. -/
theorem tokens_have_no_layout (src : Bytes) (ts : List Token) (h : tokenize src = .ok ts) :
    ∀ t ∈ ts, t.ty ≠ TT_SPACE ∧ t.ty ≠ TT_COMMENT := by
  obtain ⟨ls, pos, _, rfl⟩ := tokenize_eq_ok h
  intro t ht
  rcases List.mem_append.mp ht with ht | ht
  · obtain ⟨l, hl, rfl⟩ := List.mem_map.mp ht
    simpa [Lexeme.toToken] using (List.mem_filter.mp hl).2
  · cases List.mem_singleton.mp ht
    exact (by decide : TT_EOF ≠ TT_SPACE ∧ TT_EOF ≠ TT_COMMENT)

/-- the token list is a function of the kept (non-blank, non-comment) lexemes and the end position -/
theorem tokens_from_kept_lexemes (a b : Bytes) (la lb : List Lexeme) (p : Nat × Nat)
    (ha : tokenizeTrace a = .ok (la, p)) (hb : tokenizeTrace b = .ok (lb, p))
    (hk : la.filter (fun l => !(l.ty == TT_SPACE || l.ty == TT_COMMENT)) = lb.filter (fun l => !(l.ty == TT_SPACE || l.ty == TT_COMMENT))) :
    tokenize a = tokenize b := by
  simp only [tokenize, ha, hb, hk]

def keptL (l : Lexeme) : Bool := !(l.ty == TT_SPACE || l.ty == TT_COMMENT)
/-- what the parser gets, positions aside -/
def tv (ls : List Lexeme) : List (Nat × Bytes) := (ls.filter keptL).map (fun l => (l.ty, l.val))
def resTV : Res (List Lexeme × (Nat × Nat)) → Res (List (Nat × Bytes))
  | .ok (ls, _) => .ok (tv ls)
  | .err => .err
  | .diverge => .diverge

theorem tv_append (a b : List Lexeme) : tv (a ++ b) = tv a ++ tv b := by simp [tv]

theorem tv_snoc (l : Lexeme) (acc : List Lexeme) :
    tv (l :: acc).reverse = tv acc.reverse ++ if keptL l then [(l.ty, l.val)] else [] := by
  rw [List.reverse_cons, tv_append]
  cases h : keptL l <;> simp [tv, h]

/-- **Positions never influence what is lexed**: from the same remaining input and last kept type, two runs of the lexer loop
    that differ in the position counters (and in the positions stamped on the lexemes so far) yield the same kept
    (type, value) sequence - or both fail. -/
theorem loop_positions_irrelevant (fuel last : Nat) (pos pos' : Nat × Nat) (s : Bytes) (acc acc' : List Lexeme)
    (h : tv acc.reverse = tv acc'.reverse) : resTV (loop fuel last pos s acc) = resTV (loop fuel last pos' s acc') := by
  fun_induction loop fuel last pos s acc generalizing pos' acc' with
  | case1 fuel last pos acc => rw [loop]; exact congrArg Res.ok h
  | case2 => rfl
  | case3 fuel last pos c t acc hstep => rw [loop, hstep]
  | case4 fuel last pos c t acc ty val rest hstep text lx last' ih =>
    rw [loop, hstep]
    exact ih _ _ (by rw [tv_snoc, tv_snoc, h]; rfl)

theorem loop_skips_layout {fuel last : Nat} {pos : Nat × Nat} {s : Bytes} {acc : List Lexeme} {ty : Nat} {val rest : Bytes}
    (hstep : step last s = .tok ty val rest) (hty : (ty == TT_SPACE || ty == TT_COMMENT) = true) :
    resTV (loop (fuel + 1) last pos s acc) = resTV (loop fuel last pos rest acc) := by
  cases s with
  | nil => cases hstep
  | cons c t =>
    simp only [loop, hstep, hty, if_true]
    exact loop_positions_irrelevant _ _ _ _ _ _ _ (by rw [tv_snoc, if_neg (by simp [keptL, hty]), List.append_nil])

/-- **A blank in front of a lexeme changes no token.**  From any state of the lexer loop, a space or a tab at the head of the
    remaining input is dropped, leaves the "last kept type" alone (so a following `-` reads the same) and shifts only
    positions: the loop yields the kept (type, value) sequence it yields from the same state without the blank. -/
theorem blank_before_a_lexeme_changes_no_token (fuel last : Nat) (pos : Nat × Nat) (s : Bytes) (acc : List Lexeme) (b : UInt8)
    (hb : b = 32 ∨ b = 9) :
    resTV (loop (fuel + 1) last pos (b :: s) acc) = resTV (loop fuel last pos s acc) :=
  loop_skips_layout (step_blank last s hb) rfl

/-- **A comment in front of a lexeme changes no token**: the same, from any state of the loop, for a complete block comment
    `/* body */` and for a line comment up to (not including) its line break at the head of the remaining input. -/
theorem block_comment_before_a_lexeme_changes_no_token (fuel last : Nat) (pos : Nat × Nat) (body b rest : Bytes) (acc : List Lexeme)
    (h : scanBlockBody body = some (b, rest)) :
    resTV (loop (fuel + 1) last pos (47 :: 42 :: body) acc) = resTV (loop fuel last pos rest acc) :=
  loop_skips_layout (step_blockComment last h) rfl

theorem line_comment_before_a_line_break_changes_no_token (fuel last : Nat) (pos : Nat × Nat) (body : Bytes) (acc : List Lexeme) :
    resTV (loop (fuel + 1) last pos (47 :: 47 :: body) acc) = resTV (loop fuel last pos (scanLine body).2 acc) :=
  loop_skips_layout (step_lineComment last body) rfl

/-- the same at the start of a file -/
theorem leading_blank_changes_no_token (src : Bytes) (b : UInt8) (hb : b = 32 ∨ b = 9) :
    resTV (tokenizeTrace (b :: src)) = resTV (tokenizeTrace src) := by
  have hn : normCRLF (b :: src) = b :: normCRLF src := normCRLF_cons_of_ne (by rcases hb with rfl | rfl <;> decide) _
  simp only [tokenizeTrace, hn, List.length_cons]
  exact blank_before_a_lexeme_changes_no_token _ 0 (1, 1) _ [] b hb

end Tsh.C12
