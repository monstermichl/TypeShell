/-
  C09 - Multi-file programs link correctly and unused-function removal is safe: the semantic side of the removal.

  `unused_function_removal_is_safe`: the program `Parse` returns is the program it has read (all imported files and
  the main file, `parseRaw`) with the function definitions removed that the call graph does not reach; whenever every
  call in the top-level code and in the bodies of the kept functions goes to a kept function (`graphCovers`, a
  decidable condition that the check evaluates on the call graph and the statements of every program it parses),
  the removal does not change the outcome: every result of the full program (exit status, printed lines) is the
  result of the reduced program.  This is a theorem about the source semantics `Sem2/Src` for ALL programs (it
  needs no fragment: a construct the semantics gives no meaning is stuck before and after the removal); the proof is in
  `Lemmas/Sem2Rel.lean` and `Lemmas/Sem2Clean.lean`.

-/
import TshVerif.Lemmas.ParserImportsPub
import TshVerif.Lemmas.Sem2Clean
import TshVerif.Sem2.Cover
import TshVerif.Props.C09
namespace Tsh.C09
open Tsh Tsh.Parser Tsh.Sem2.Src

/-- **Unused-function removal is safe.** -/
theorem unused_function_removal_is_safe (fs : FileSys) (main : String) (p : Parsed) (s : PSt) (h : parse fs main = .ok p s) :
    ∃ raw, parseRaw fs main = .ok raw s ∧
      (graphCovers raw.usedFuncs raw.body = true →
        ∀ fuel r, runProgram fuel raw.body = some r → runProgram fuel p.body = some r) := by
  obtain ⟨raw, hraw, hcl⟩ := parse_eq_clean h
  refine ⟨raw, hraw, ?_⟩
  intro hg fuel r hr
  obtain ⟨keep, hk, e⟩ := cleanProgram_eq hcl
  simp only [graphCovers, hk] at hg
  rw [e]
  exact removal_safe keep raw.body hg fuel r hr

/-- the same, for any set of kept names (not only the one the parser collects) -/
theorem removal_of_uncalled_functions_is_safe (keep : List String) (p : Program) (h : callsTop keep p = true) (fuel : Nat)
    (r : Nat × List String) (hr : runProgram fuel p = some r) : runProgram fuel (cleanP keep p) = some r :=
  removal_safe keep p h fuel r hr

/-- **The outcome of a program does not depend on the fuel that found it.** -/
theorem outcome_independent_of_fuel {f1 f2 : Nat} {p : Program} {r1 r2 : Nat × List String}
    (h1 : runProgram f1 p = some r1) (h2 : runProgram f2 p = some r2) : r1 = r2 :=
  runProgram_fuel_independent h1 h2

/-- the hypotheses are satisfiable: `dead` is never called and is removed, `live` stays; the outcome is the same -/
def cleanSample : Program :=
  let int : ValueType := ⟨.int, false⟩
  let v (n : String) (g : Bool) : Var := ⟨n, int, g, false⟩
  [.funcDef "live" false [int] [v "a" false] [.ret [.binary "+" (.varEval (v "a" false)) (.intLit 1)]],
   .funcDef "dead" false [int] [] [.print [.strLit "never"], .ret [.intLit 0]],
   .print [.call "live" [int] [.intLit 41]]]

example : callsTop ["live"] cleanSample = true := by decide
example : (cleanP ["live"] cleanSample).length = 2 := by decide
#guard runProgram 50 cleanSample == some (0, ["42"])
#guard runProgram 50 (cleanP ["live"] cleanSample) == some (0, ["42"])

/-- **Private names do not cross an import**: whatever the files are, the context in which the statements of a file are
    parsed holds, from its imports, only functions and variables that are public (`pub`: first character an upper-case letter)
    in the file that defines them - so `alias.name` can resolve to nothing else, and a private or an undefined name of an
    imported file is rejected like any unknown name. -/
theorem imports_expose_only_public_names (depth : Nat) (fs : Parser.FileSys) (path : String) (importing : List String) (fuel : Nat)
    (s0 s' : Parser.PSt) (r : Parser.Ctx × List Stmt)
    (h : Parser.evalImports depth fs path importing fuel {} s0 = .ok r s') :
    (∀ e ∈ r.1.funcs, e.2.pub = true) ∧ (∀ e ∈ r.1.vars, e.2.pub = true) :=
  Parser.evalImports_pub fs path importing fuel s0 s' r h

end Tsh.C09
