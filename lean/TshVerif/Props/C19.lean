/-
  C19 - The tsh command writes exactly the library's output, or nothing.
  Theorems about Model/Cli.lean (the model of tsh.go; tied to the built binary by the check) for every argument list,
  every file system and every behaviour of the library (`transpile` is a parameter).  Paths are compared as strings, as
  the model's guard does (tsh.go uses `os.SameFile`).
-/
import TshVerif.Model.Cli
namespace Tsh.C19
open Tsh Tsh.Cli

variable (fs : FS) (transpile : Target → Option Bytes)

theorem runConvs_writes (o : Opts) (ts : List Target) (acc : List (String × Bytes)) :
    ∃ ws, (runConvs fs o transpile ts acc).writes = acc ++ ws ∧
      ∀ p b, (p, b) ∈ ws → ∃ t ∈ ts, p = outPath o t ∧ transpile t = some b ∧ p ≠ clean o.inp := by
  fun_induction runConvs fs o transpile ts acc with
  | case5 t rest acc script hs target hne _ ih =>
    obtain ⟨ws, h1, h2⟩ := ih
    refine ⟨(target, script) :: ws, by rw [h1, List.append_assoc]; rfl, fun p b hw => ?_⟩
    rcases List.mem_cons.mp hw with h | hw
    · obtain ⟨rfl, rfl⟩ := Prod.mk.inj h
      exact ⟨t, List.mem_cons_self, rfl, hs, fun h => hne (beq_iff_eq.mpr h.symm)⟩
    · obtain ⟨t', ht', h3⟩ := h2 p b hw
      exact ⟨t', List.mem_cons_of_mem _ ht', h3⟩
  | _ => exact ⟨[], (List.append_nil _).symm, fun _ _ h => nomatch h⟩

/-- **Only the library's output is written**: every file `tsh` writes is the output file of a
    requested target and holds exactly the bytes the library returned for that target. -/
theorem cli_writes_only_library_output (args : List String) :
    ∀ w ∈ (run fs args transpile).writes, ∃ o t, parseOptions fs args = some o ∧ t ∈ o.convs ∧
      w.1 = outPath o t ∧ transpile t = some w.2 := by
  intro w hw
  unfold run at hw
  split at hw
  · cases hw
  · next o ho =>
    obtain ⟨ws, h1, h2⟩ := runConvs_writes fs transpile o o.convs []
    obtain ⟨t, ht, h3, h4, _⟩ := h2 w.1 w.2 (by rwa [h1] at hw)
    exact ⟨o, t, ho, ht, h3, h4⟩

theorem runConvs_ok (o : Opts) (ts : List Target) (acc : List (String × Bytes))
    (hst : (runConvs fs o transpile ts acc).status = 0) :
    ∀ t ∈ ts, ∃ script, transpile t = some script ∧ (outPath o t, script) ∈ (runConvs fs o transpile ts acc).writes := by
  fun_induction runConvs fs o transpile ts acc with
  | case1 acc => nofun
  | case5 t rest acc script hs target _ _ ih =>
    intro t' ht'
    rcases List.mem_cons.mp ht' with rfl | ht'
    · obtain ⟨ws, h1, _⟩ := runConvs_writes fs transpile o rest (acc ++ [(target, script)])
      exact ⟨script, hs, by rw [h1]; exact List.mem_append_left _ (List.mem_append_right _ List.mem_cons_self)⟩
    · exact ih hst t' ht'
  | _ => cases hst

/-- **A successful run writes every requested output**, each with the library's bytes. -/
theorem cli_success_writes_all (args : List String) (h : (run fs args transpile).status = 0) :
    ∃ o, parseOptions fs args = some o ∧
      ∀ t ∈ o.convs, ∃ script, transpile t = some script ∧ (outPath o t, script) ∈ (run fs args transpile).writes := by
  cases ho : parseOptions fs args with
  | none => simp [run, ho] at h
  | some o =>
    refine ⟨o, rfl, ?_⟩
    simp only [run, ho] at h ⊢
    exact runConvs_ok fs transpile o o.convs [] h

/-- **Errors are reported**: if the library fails for some requested target, the exit status is not 0. -/
theorem cli_error_nonzero (args : List String) (o : Opts) (ho : parseOptions fs args = some o)
    (t : Target) (ht : t ∈ o.convs) (hfail : transpile t = none) : (run fs args transpile).status ≠ 0 := by
  intro h
  obtain ⟨o', ho', hall⟩ := cli_success_writes_all fs transpile args h
  rw [ho] at ho'
  cases ho'
  obtain ⟨script, hs, _⟩ := hall t ht
  rw [hfail] at hs
  cases hs

/-- a write that goes to the output path of a failing target `t` goes to the output path of some `t' ≠ t` (that two
    targets never share a path, which would exclude the write, is not stated) -/
theorem cli_failing_target_not_written (args : List String) (t : Target) (hfail : transpile t = none) :
    ∀ w ∈ (run fs args transpile).writes, ∀ o, parseOptions fs args = some o → w.1 = outPath o t →
      ∃ t', t' ≠ t ∧ w.1 = outPath o t' := by
  intro w hw o ho hp
  obtain ⟨o', t', ho', _, h1, h2⟩ := cli_writes_only_library_output fs transpile args w hw
  rw [ho] at ho'; cases ho'
  refine ⟨t', ?_, h1⟩
  intro heq; subst heq
  rw [hfail] at h2; cases h2

/-- **Invalid options write nothing and fail** -/
theorem cli_bad_options (args : List String) (h : parseOptions fs args = none) :
    (run fs args transpile).status = 2 ∧ (run fs args transpile).writes = [] := by
  simp [run, h]

/-- **No write goes to the input path**: the path of every write differs, as a string, from the cleaned input path (the
    guard of `runConvs` compares strings; two different strings naming one file are not excluded). -/
theorem cli_input_untouched (args : List String) :
    ∀ w ∈ (run fs args transpile).writes, ∀ o, parseOptions fs args = some o → w.1 ≠ clean o.inp := by
  intro w hw o ho
  unfold run at hw
  rw [ho] at hw
  obtain ⟨ws, h1, h2⟩ := runConvs_writes fs transpile o o.convs []
  obtain ⟨_, _, _, _, h⟩ := h2 w.1 w.2 (by rwa [h1] at hw)
  exact h

/-- a concrete successful invocation with two targets, one of them named twice -/
def exampleRun : Result :=
  run { files := [("prog.tsh", [1])], dirs := ["out", "."] }
    ["-t", "bash", "-o", "out", "-i", "prog.tsh", "-t", "batch", "-t", "bash"] (fun t => some (if t == .bash then [7] else [8]))

#guard exampleRun.status == 0 && exampleRun.writes == [("out/prog.sh", [7]), ("out/prog.bat", [8]), ("out/prog.sh", [7])]

/-- **An option without its value is a bad option**: an argument list of odd length is rejected, whatever the
    trailing argument and the pairs in front of it. -/
theorem parsePairs_odd (args : List String) (o : Opts) (h : args.length % 2 = 1) : parsePairs fs args o = none := by
  -- the arguments go two at a time, so only a list of even length reaches `[]`
  fun_induction parsePairs fs args o
  case case10 => cases h
  case case3 ih | case6 ih | case7 ih => exact ih ((Nat.add_mod_right _ 2).symm.trans h)
  all_goals rfl

theorem trailing_argument_is_rejected (args : List String) (h : args.length % 2 = 1) (transpile : Target → Option Bytes) :
    (run fs args transpile).status ≠ 0 ∧ (run fs args transpile).writes = [] := by
  have : parseOptions fs args = none := by simp [parseOptions, parsePairs_odd fs args {} h]
  simp [run, this]

end Tsh.C19
