/-
  C17 - write, read and exists behave as a line store over the file system: the semantic side.

  `Sem/BashFs` says what the three file lines of the bash back-end do to a file system (a partial map from files to bytes;
  which file a path names is a parameter).  Proved here, for EVERY file system, file, content and history: what `read`
  returns after `write` and after an appending `write` (with the witnesses of the known finding
  read-strips-trailing-newlines), that a write touches one file, `exists`; the REFINEMENT `file_system_is_a_line_store`;
  and the tie to the transpiler, `write_statement_stores_the_line`.
  Trusted here: that /bin/bash reads the rendered text of the line as `execFileLine` says (executed in every run of the check:
  request FS of the driver replays every generated history in this model next to the real script on a real directory tree).
-/
import TshVerif.Lemmas.BashFs
import TshVerif.Lemmas.SemScan
import TshVerif.Props.C17
namespace Tsh.C17
open Tsh Tsh.Tr Tsh.Bash Tsh.BashFs

set_option linter.unusedSectionVars false
variable {F : Type} [DecidableEq F]

/-- **After `write(p, s)` the file holds s followed by a line feed.** -/
theorem file_after_write (fs : Fs F) (f : F) (s : BashFs.Bytes) (flag : Option Int) (h : flag ≠ some 1) :
    (writeLine flag fs f s).content f = some (s ++ ['\n']) := by
  simp [writeLine, h, truncWrite, Fs.put]

/-- **`read(p)` after `write(p, s)`**: s without its trailing line feeds -/
theorem read_after_write (fs : Fs F) (f : F) (s : BashFs.Bytes) (flag : Option Int) (h : flag ≠ some 1) :
    readSubst (writeLine flag fs f s) f = some (stripNl s) := by
  simp [readSubst, file_after_write fs f s flag h, stripNl_append_nl]

/-- … which is s itself for every s that does not end in a line feed -/
theorem read_after_write_clean (fs : Fs F) (f : F) (s : BashFs.Bytes) (flag : Option Int) (h : flag ≠ some 1)
    (hs : noTrailingNl s = true) : readSubst (writeLine flag fs f s) f = some s := by
  rw [read_after_write fs f s flag h, stripNl_of_noTrailingNl s hs]

/-- the hypothesis is needed: the known finding read-strips-trailing-newlines -/
theorem read_after_write_loses_trailing_newlines :
    readSubst (writeLine (some 0) (⟨fun _ => none⟩ : Fs Nat) 0 "a\n".toList) 0 = some "a".toList := by decide

/-- **`write(p, s, true)` appends a further line**: `read(p)` returns the old content, a line feed and s -/
theorem read_after_append (fs : Fs F) (f : F) (old s : BashFs.Bytes) (hf : fs.content f = some (old ++ ['\n']))
    (hne : s ≠ []) (hs : noTrailingNl s = true) :
    readSubst (writeLine (some 1) fs f s) f = some (old ++ '\n' :: s) := by
  have hc : (writeLine (some 1) fs f s).content f = some ((old ++ '\n' :: s) ++ ['\n']) := by
    simp [writeLine, appendWrite, Fs.put, hf]
  simp only [readSubst, hc, Option.map_some, stripNl_append_nl]
  rw [stripNl_of_noTrailingNl]
  have := noTrailingNl_append (old ++ ['\n']) s hne hs
  simpa using this

/-- an appended EMPTY line cannot be seen through `read` (same known finding) -/
theorem append_of_empty_line_is_invisible :
    let fs : Fs Nat := writeLine (some 0) ⟨fun _ => none⟩ 0 "a".toList
    readSubst (writeLine (some 1) fs 0 []) 0 = readSubst fs 0 := by decide

theorem append_creates_the_file (fs : Fs F) (f : F) (s : BashFs.Bytes) (hf : fs.content f = none) :
    (writeLine (some 1) fs f s).content f = some (s ++ ['\n']) := by
  simp [writeLine, appendWrite, Fs.put, hf]

/-- **Writing never touches another file**: content, `read` and `exists` of every other file stay as they are -/
theorem write_touches_one_file (fs : Fs F) (f g : F) (s : BashFs.Bytes) (flag : Option Int) (hg : g ≠ f) :
    (writeLine flag fs f s).content g = fs.content g ∧
    readSubst (writeLine flag fs f s) g = readSubst fs g ∧
    existsTest (writeLine flag fs f s) g = existsTest fs g := by
  have h : (writeLine flag fs f s).content g = fs.content g := by
    unfold writeLine; split <;> simp [appendWrite, truncWrite, Fs.put, hg]
  simp [readSubst, existsTest, h]

theorem exists_after_write (fs : Fs F) (f : F) (s : BashFs.Bytes) (flag : Option Int) :
    existsTest (writeLine flag fs f s) f = true := by
  unfold writeLine; split <;> simp [existsTest, appendWrite, truncWrite, Fs.put]

/-- **`exists(p)` is true exactly when p exists** -/
theorem exists_iff (fs : Fs F) (f : F) : existsTest fs f = true ↔ ∃ b, fs.content f = some b := by
  simp [existsTest, Option.isSome_iff_exists]

/-- **Refinement**, for every sequence of `write` / `write(.., true)` operations, on whatever files. -/
theorem file_system_is_a_line_store (fs : Fs F) (st : Store F) (ops : List (Op F)) (h : Holds fs st) :
    Holds (runOps fs ops) (runStore st ops) := by
  induction ops generalizing fs st with
  | nil => exact h
  | cons o os ih => exact ih _ _ (holds_step fs st o h)

/-- so `file_system_is_a_line_store` applies to every history from scratch -/
theorem empty_holds : Holds (⟨fun _ => none⟩ : Fs F) ⟨fun _ => none⟩ := by intro f; rfl

/-- **`read` returns the lines**: the earlier ones each with its line feed, then the last one (without trailing line feeds) -/
theorem read_returns_the_lines (fs : Fs F) (st : Store F) (h : Holds fs st) (f : F) (ls : List BashFs.Bytes) (s : BashFs.Bytes)
    (hl : st.lines f = some (ls ++ [s])) : readSubst fs f = some (stripNl (bytesOf ls ++ s)) := by
  simp only [readSubst, h f, hl, Option.map_some, bytesOf_concat, stripNl_append_nl]

theorem read_returns_the_lines_clean (fs : Fs F) (st : Store F) (h : Holds fs st) (f : F) (ls : List BashFs.Bytes) (s : BashFs.Bytes)
    (hl : st.lines f = some (ls ++ [s])) (hne : s ≠ []) (hs : noTrailingNl s = true) :
    readSubst fs f = some (bytesOf ls ++ s) := by
  rw [read_returns_the_lines fs st h f ls s hl, stripNl_of_noTrailingNl _ (noTrailingNl_append _ s hne hs)]

/-- a history on two files, replayed -/
example :
    let ops : List (Op Nat) := [⟨0, "x".toList, false⟩, ⟨1, "k".toList, true⟩, ⟨0, "a b".toList, false⟩, ⟨0, "c".toList, true⟩]
    readSubst (runOps ⟨fun _ => none⟩ ops) 0 = some "a b\nc".toList ∧ readSubst (runOps ⟨fun _ => none⟩ ops) 1 = some "k".toList ∧
    existsTest (runOps ⟨fun _ => none⟩ ops) 2 = false := by decide +kernel

/-- what a file line of the script does in shell state `ρ` to the file system (`resolve`: which file a path names) -/
def execFileLine (resolve : String → F) (ρ : Sem.Store) (fs : Fs F) : Line → Option (Fs F)
  | .writeFile a c p =>
      match Sem.expand ρ a, Sem.expand ρ c, Sem.expand ρ p with
      | some va, some vc, some vp => some (writeLine (Sem.asInt va) fs (resolve vp) vc.toList)
      | _, _, _ => none
  | _ => none

theorem expand_literal (ρ : Sem.Store) (lit : String) (h : plainString lit = true) :
    Sem.expand ρ (stringToString lit) = some lit :=
  (Sem.complete_escaped ρ lit (List.all_eq_true.mp h)).toExpand

theorem expand_boolStr (ρ : Sem.Store) (b : Bool) : Sem.expand ρ (boolStr b) = some (boolStr b) :=
  Sem.Complete.toExpand (Sem.complete_bool ρ b)

def flagOf : Option Bool → Option Expr
  | none => none
  | some b => some (.boolLit b)

/-- **The `write` statement stores the line.**  `p` and `c` may hold everything but `$` / backquote (blanks, quotes,
    backslashes, glob characters, leading dashes, line feeds included); `flagOf` gives every spelling of the flag. -/
theorem write_statement_stores_the_line (p c : String) (flag : Option Bool) (s : St)
    (hp : plainString p = true) (hc : plainString c = true) :
    ∃ l : Line, evalStmt conv (.expr (.write (.strLit p) (.strLit c) (flagOf flag))) s = .ok ((), { s with code := l :: s.code }) ∧
      ∀ (resolve : String → F) (ρ : Sem.Store) (fs : Fs F),
        execFileLine resolve ρ fs l =
          some (if flag = some true then appendWrite fs (resolve p) c.toList else truncWrite fs (resolve p) c.toList) := by
  refine ⟨.writeFile (boolStr (flag.getD false)) (stringToString c) (stringToString p), ?_, fun resolve ρ fs => ?_⟩
  · cases flag with
    | none => unfold evalStmt evalExpr; rfl
    | some b => unfold evalStmt evalExpr flagOf evalAppend evalExpr; rfl
  · simp only [execFileLine, expand_literal ρ p hp, expand_literal ρ c hc, expand_boolStr, Sem.asInt_boolStr, writeLine]
    cases flag with
    | none => simp
    | some b => cases b <;> simp

/-- the composition: after `write("p", "c")`, `read` of the same file returns `c` (c not ending in a line feed) -/
theorem write_statement_then_read (p c : String) (s : St) (hp : plainString p = true) (hc : plainString c = true)
    (hn : noTrailingNl c.toList = true) :
    ∃ l : Line, evalStmt conv (.expr (.write (.strLit p) (.strLit c) none)) s = .ok ((), { s with code := l :: s.code }) ∧
      ∀ (resolve : String → F) (ρ : Sem.Store) (fs : Fs F),
        ∃ fs', execFileLine resolve ρ fs l = some fs' ∧ readSubst fs' (resolve p) = some c.toList ∧
          existsTest fs' (resolve p) = true ∧ ∀ g, g ≠ resolve p → fs'.content g = fs.content g := by
  obtain ⟨l, h1, h2⟩ := write_statement_stores_the_line (F := F) p c none s hp hc
  refine ⟨l, h1, fun resolve ρ fs => ⟨_, h2 resolve ρ fs, ?_, ?_, ?_⟩⟩
  · simpa [writeLine] using read_after_write_clean fs (resolve p) c.toList (some 0) (by decide) hn
  · simpa [writeLine] using exists_after_write fs (resolve p) c.toList (some 0)
  · intro g hg
    simpa [writeLine] using (write_touches_one_file fs (resolve p) g c.toList (some 0) hg).1

/-- the hypotheses are satisfiable by a content full of shell characters -/
example : plainString "a \"b\" \\ * ? ~ ; & | < > ( ) # ! ' -n {} = %" = true ∧
    noTrailingNl "a \"b\" \\ * ? ~ ; & | < > ( ) # ! ' -n {} = %".toList = true := by decide +kernel

end Tsh.C17
