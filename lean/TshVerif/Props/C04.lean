/-
  C04 - Operands are evaluated exactly once, in source order, conditions eagerly.

  The transpiler walk (Model/Transpile.lean, tied to transpiler.go by byte-for-byte correspondence of the
  scripts of both targets) is written once, generically over the converter, so the order and multiplicity
  of the converter operations it requests do not depend on the target.
  A COUNT, for the one tracing converter `Trace.conv` (Lemmas/Trace.lean) and every expression:
    * `each_operand_once`: a successful walk of `e` logs exactly `opCount e` events IN TOTAL, where `opCount`
      has one per operator / builtin / call / variable read / string literal node of the AST (likewise
      argument lists, call chains, printed values, else-if conditions).  Which node logged which event,
      hence that none is walked twice and another skipped, is not stated.
  The ORDER, for every converter, each theorem one step of the walk's definition:
    * `arguments_left_to_right`, `binary_left_then_right`, `logical_is_eager`: the walks of the operands in
      source order, then the operation itself; `single_index_once`: a single string index `s[i]` walks `i`
      once and passes its value as both bounds;
    * `if_conditions_before_branches`: for an if/else-if chain the condition of the `if` and of ALL
      `else if` branches are evaluated before the `if` operation is requested; the branches then only
      receive the already computed values (a `switch` is such a chain);
    * `loop_order`: init; for; (incr; statement; endincr)?; condition; forcond; body; endfor.
  For the bash target the same is visible in the block grammar of C01/C16 (`Shape`): between two
  branches of an if-chain there is no room for a statement.  That the AST lists operands in source
  order is the parser's part (AST correspondence).  Effect order at run time: in the models Props/C04Sem.lean, for /bin/bash
  the tracer oracle of the check.
-/
import TshVerif.Lemmas.Trace
namespace Tsh.C04
open Tsh Tsh.Tr Tsh.Trace

def Adds {α : Type} (n : Nat) (m : TM α) : Prop := ∀ s a s', m s = .ok (a, s') → s'.log.length = s.log.length + n

theorem adds_pure {α : Type} (a : α) : Adds 0 (pure a : TM α) := by
  intro s b s' h; rw [(EM.pure_ok h).2]; rfl

theorem adds_bind {α β : Type} {j k : Nat} {x : TM α} {f : α → TM β} (hx : Adds j x) (hf : ∀ a, Adds k (f a)) :
    Adds (j + k) (x >>= f) := by
  intro s b s'' h
  obtain ⟨a, s', h1, h2⟩ := EM.bind_ok h
  rw [hf a _ _ _ h2, hx _ _ _ h1]; omega

theorem adds_fail {α : Type} (n : Nat) (m : String) : Adds n (fail m : TM α) := by
  intro s a s' h; simp [fail] at h

theorem adds_val (op : String) (args : List String) : Adds 1 (val op args) := by
  intro s v s' h
  cases h; exact List.length_append

theorem adds_funcCall (n : String) (a : List String) (r : List ValueType) (u : Bool) : Adds 1 (Trace.conv.funcCall n a r u) := by
  intro s v s' h
  cases h; exact List.length_append

theorem adds_appCall (cs : List (String × List String)) (u : Bool) : Adds 1 (Trace.conv.appCall cs u) := by
  intro s v s' h
  cases h; exact List.length_append

/-- the tracing converter logs every operation of an expression once -/
theorem trace_ops : COps (⟨Adds, adds_pure, adds_bind, adds_fail⟩ : Counted TS) Trace.conv where
  stringToString _ := adds_val _ _
  unaryOperation _ _ _ _ := adds_val _ _
  binaryOperation _ _ _ _ _ := adds_val _ _
  comparison _ _ _ _ _ := adds_val _ _
  logicalOperation _ _ _ _ _ := adds_val _ _
  varEvaluation _ _ _ := adds_val _ _
  sliceInstantiation _ _ := adds_val _ _
  sliceEvaluation _ _ _ := adds_val _ _
  sliceLen _ _ := adds_val _ _
  stringSubscript _ _ _ _ := adds_val _ _
  stringLen _ _ := adds_val _ _
  funcCall := adds_funcCall
  appCall := adds_appCall
  input _ _ := adds_val _ _
  copy _ _ _ _ := adds_val _ _
  exists_ _ _ := adds_val _ _
  readFile _ _ := adds_val _ _

theorem walk_once :
    (∀ e used, Adds (opCount e) (evalExpr Trace.conv e used)) ∧ (∀ e, Adds (chainCount e) (evalAppChain Trace.conv e)) ∧
    ∀ es, Adds (opCounts es) (evalArgs Trace.conv es) :=
  exprWalk_counted _ _ trace_ops

/-- **Each operand exactly once**, as a total: the tracing walk of `e` logs `opCount e` events. -/
theorem each_operand_once (e : Expr) (used : Bool) : Adds (opCount e) (evalExpr Trace.conv e used) := walk_once.1 e used

theorem args_once (es : List Expr) : Adds (opCounts es) (evalArgs Trace.conv es) := walk_once.2.2 es

theorem chain_once (e : Expr) : Adds (chainCount e) (evalAppChain Trace.conv e) := walk_once.2.1 e

/-- printed values: the same total -/
theorem printed_values_once (es : List Expr) : Adds (opCounts es) (evalAll Trace.conv es) := by
  induction es with
  | nil => unfold evalAll; exact adds_pure _
  | cons e rest ih =>
    unfold evalAll
    exact adds_bind (each_operand_once e true) (fun _ => adds_bind ih (fun _ => adds_pure _))

/-- **Arguments, slice elements, returned values: left to right** -/
theorem arguments_left_to_right {σ : Type} (cv : Conv σ) (e : Expr) (rest : List Expr) :
    evalArgs cv (e :: rest) = (do let r ← evalExpr cv e true; let rs ← evalArgs cv rest; pure (firstValue r :: rs)) := by
  rw [evalArgs]

/-- **Binary operators: left operand, then right operand, then the operation on both values** -/
theorem binary_left_then_right {σ : Type} (cv : Conv σ) (op : String) (l r : Expr) (used : Bool) :
    evalExpr cv (.binary op l r) used = (do
      let a ← evalExpr cv l true
      let b ← evalExpr cv r true
      let s ← cv.binaryOperation (firstValue a) op (firstValue b) (Expr.valueType l) used
      pure [s]) := by
  rw [evalExpr]

theorem logical_is_eager {σ : Type} (cv : Conv σ) (op : String) (l r : Expr) (used : Bool) :
    evalExpr cv (.logical op l r) used = (do
      let a ← evalExpr cv l true
      let b ← evalExpr cv r true
      let s ← cv.logicalOperation (firstValue a) op (firstValue b) (Expr.valueType l) used
      pure [s]) := by
  rw [evalExpr]

/-- a single string index evaluates the index once and uses its value for both bounds -/
theorem single_index_once {σ : Type} (cv : Conv σ) (v a : Expr) (used : Bool) :
    evalExpr cv (.substr v a none) used = (do
      let x ← evalExpr cv a true
      let y ← evalExpr cv v true
      let s ← cv.stringSubscript (firstValue y) (firstValue x) (firstValue x) used
      pure [s]) := by
  rw [evalExpr]

/-- operations requested by the conditions of the else-if branches -/
def condCount : List (Expr × List Stmt) → Nat
  | [] => 0
  | (c, _) :: rest => opCount c + condCount rest

theorem conditions_once : ∀ (elifs : List (Expr × List Stmt)), Adds (condCount elifs) (evalConds Trace.conv elifs)
  | [] => by unfold evalConds; exact adds_pure _
  | (c, _) :: rest => by
    unfold evalConds
    exact adds_bind (each_operand_once c true) (fun _ => adds_bind (conditions_once rest) (fun _ => adds_pure _))

/-- **All conditions of an if / else-if chain before any branch** -/
theorem if_conditions_before_branches {σ : Type} (cv : Conv σ) (cond : Expr) (body : List Stmt)
    (elifs : List (Expr × List Stmt)) (els : List Stmt) :
    evalStmt cv (.ifS cond body elifs els) = (do
      let c ← evalExpr cv cond true
      let ecs ← evalConds cv elifs
      cv.ifStart (firstValue c)
      evalBlock cv body
      evalElifs cv elifs ecs
      evalElse cv els
      cv.ifEnd) := by
  rw [evalStmt]

/-- an else-if branch is the `elif` operation on the precomputed value, then its body -/
theorem elif_uses_precomputed_value {σ : Type} (cv : Conv σ) (c : Expr) (body : List Stmt)
    (rest : List (Expr × List Stmt)) (v : String) (vs : List String) :
    evalElifs cv ((c, body) :: rest) (v :: vs) = (do
      cv.elseIfStart v
      evalBlock cv body
      cv.elseIfEnd
      evalElifs cv rest vs) := by
  rw [evalElifs]

/-- **Loop order**: init; loop head; guarded increment; condition; exit test; body; loop end. -/
theorem loop_order {σ : Type} (cv : Conv σ) (init : Option Stmt) (cond : Expr) (incr : Option Stmt) (body : List Stmt) :
    evalStmt cv (.forS init cond incr body) = (do
      evalInit cv init
      cv.forStart
      evalIncr cv incr
      let c ← evalExpr cv cond true
      cv.forCondition (firstValue c)
      evalBlock cv body
      cv.forEnd) := by
  rw [evalStmt]

/-! non-vacuity: `f(g(1), x + "s")` with a tracing run -/
private def xv : Var := { name := "x", vt := ⟨.string, false⟩, global := true, pub := false }
private def ex : Expr := .call "f" [⟨.int, false⟩] [.call "g" [⟨.int, false⟩] [.intLit 1], .binary "+" (.varEval xv) (.strLit "s")]
#guard opCount ex == 5
#guard (match evalExpr Trace.conv ex true {} with | .ok (_, s) => s.log.map (·.op) | _ => []) == ["call", "load", "literal", "binary", "call"]

end Tsh.C04
