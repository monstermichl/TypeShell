/-
  C07 - ACCEPTED PROGRAMS ARE WELL PLACED, the variables they use are visible (`accepted_programs_use_visible_variables` ..)
  and definitions need new names (`definitions_need_new_names` ..).

  Proved about the parser model (all file systems, import graphs, token sequences): in an AST the parser returns
    * `continue` stands inside the body of a loop, `return` inside the body of a function,
    * a function is defined in no function and no loop (branches and cases `Stmt.placed` does not see: for the top level see
      `function_definitions_need_a_new_name_on_the_top_level`), under a non-empty name; its body is checked as that of a
      function in no loop,
    * `break` stands inside a loop OR inside a `switch` (the parser's rule; the AST no longer shows the switch - it is an
      if chain - so this clause is the flag `brkAnywhere`; a `break` in a switch outside of a loop is the known finding
      break-in-switch: Bash gets a stray `break`, the Batch converter refuses),
  i.e. `placedStmts { brkAnywhere := true } p = true` (Model/Typed.lean), the hypothesis of the Batch emit-totality theorem
  up to that flag.  With `breaks_in_loops` (decidable on the AST: every `break` is inside a loop) it is the strict placement,
  and `accepted_programs_translate_for_both_targets` closes C06's "typing does not depend on the target" end to end.
-/
import TshVerif.Lemmas.ParserTypedProg
import TshVerif.Lemmas.ParserUseProg
import TshVerif.Lemmas.ParserDefs
import TshVerif.Props.C06
import TshVerif.Props.C06Sem
namespace Tsh.C07
open Tsh Tsh.Tr Tsh.Parser

/-- **Every accepted program is well placed.** -/
theorem accepted_programs_are_placed (fs : FileSys) (main : String) (p : Parsed) (s : PSt)
    (h : Parser.parse fs main = .ok p s) : placedStmts { brkAnywhere := true } p.body = true :=
  ((parse_good fs main).ok h).placed

/-! ### `break` only in loops: what separates the parser's placement from the strict one -/

mutual
def brkS (inLoop : Bool) : Stmt → Bool
  | .brk => inLoop
  | .funcDef _ _ _ _ body => brkSs false body
  | .ifS _ body elifs els => brkSs inLoop body && brkEl inLoop elifs && brkSs inLoop els
  | .forS init _ incr body => brkO inLoop init && brkO true incr && brkSs true body
  | _ => true
def brkSs (inLoop : Bool) : List Stmt → Bool
  | [] => true
  | s :: rest => brkS inLoop s && brkSs inLoop rest
def brkO (inLoop : Bool) : Option Stmt → Bool
  | none => true
  | some s => brkS inLoop s
def brkEl (inLoop : Bool) : List (Expr × List Stmt) → Bool
  | [] => true
  | (_, body) :: rest => brkSs inLoop body && brkEl inLoop rest
end

/-- every `break` of the program is inside a loop -/
def breaks_in_loops (p : Program) : Bool := brkSs false p

theorem strict_of_brk :
    (∀ (l : Bool) (s : Stmt), ∀ f, Stmt.placed { inLoop := l, inFunc := f, brkAnywhere := true } s = true →
      brkS l s = true → Stmt.placed { inLoop := l, inFunc := f, brkAnywhere := false } s = true) ∧
    (∀ (l : Bool) (o : Option Stmt), ∀ f, placedOpt { inLoop := l, inFunc := f, brkAnywhere := true } o = true →
      brkO l o = true → placedOpt { inLoop := l, inFunc := f, brkAnywhere := false } o = true) ∧
    (∀ (l : Bool) (es : List (Expr × List Stmt)), ∀ f, placedElifs { inLoop := l, inFunc := f, brkAnywhere := true } es = true →
      brkEl l es = true → placedElifs { inLoop := l, inFunc := f, brkAnywhere := false } es = true) ∧
    (∀ (l : Bool) (ss : List Stmt), ∀ f, placedStmts { inLoop := l, inFunc := f, brkAnywhere := true } ss = true →
      brkSs l ss = true → placedStmts { inLoop := l, inFunc := f, brkAnywhere := false } ss = true) := by
  apply brkS.mutual_induct
  · intro l f _ hb
    simpa [Stmt.placed, brkS] using hb
  · intro l n _ _ _ body ih f h hb
    simp only [Stmt.placed, Bool.and_eq_true] at h ⊢
    simp only [brkS] at hb
    exact ⟨h.1, ih true h.2 hb⟩
  · intro l _ body elifs els ih1 ih2 ih3 f h hb
    simp only [Stmt.placed, Bool.and_eq_true] at h ⊢
    simp only [brkS, Bool.and_eq_true] at hb
    exact ⟨⟨ih1 f h.1.1 hb.1.1, ih2 f h.1.2 hb.1.2⟩, ih3 f h.2 hb.2⟩
  · intro l init _ incr body ih1 ih2 ih3 f h hb
    simp only [Stmt.placed, Bool.and_eq_true] at h ⊢
    simp only [brkS, Bool.and_eq_true] at hb
    exact ⟨⟨ih1 f h.1.1 hb.1.1, ih2 f h.1.2 hb.1.2⟩, ih3 f h.2 hb.2⟩
  · intro t l h1 h2 h3 h4 f h _
    cases t with
    | brk => exact absurd rfl h1
    | funcDef => exact (h2 _ _ _ _ _ rfl).elim
    | ifS => exact (h3 _ _ _ _ rfl).elim
    | forS => exact (h4 _ _ _ _ rfl).elim
    | ret | cont => simpa [Stmt.placed] using h
    | _ => rfl
  · intro l f _ _; rfl
  · intro l s rest ih1 ih2 f h hb
    simp only [placedStmts, Bool.and_eq_true] at h ⊢
    simp only [brkSs, Bool.and_eq_true] at hb
    exact ⟨ih1 f h.1 hb.1, ih2 f h.2 hb.2⟩
  · intro l f _ _; rfl
  · intro l _ body rest ih1 ih2 f h hb
    simp only [placedElifs, Bool.and_eq_true] at h ⊢
    simp only [brkEl, Bool.and_eq_true] at hb
    exact ⟨ih1 f h.1 hb.1, ih2 f h.2 hb.2⟩
  · intro l f _ _; rfl
  · intro l s ih f h hb
    simp only [placedOpt] at h ⊢
    simp only [brkO] at hb
    exact ih f h hb

theorem strict_of_brkS : (s : Stmt) → (l f : Bool) → Stmt.placed { inLoop := l, inFunc := f, brkAnywhere := true } s = true →
    brkS l s = true → Stmt.placed { inLoop := l, inFunc := f, brkAnywhere := false } s = true :=
  fun s l f => strict_of_brk.1 l s f
theorem strict_of_brkSs : (ss : List Stmt) → (l f : Bool) → placedStmts { inLoop := l, inFunc := f, brkAnywhere := true } ss = true →
    brkSs l ss = true → placedStmts { inLoop := l, inFunc := f, brkAnywhere := false } ss = true :=
  fun ss l f => strict_of_brk.2.2.2 l ss f
theorem strict_of_brkO : (o : Option Stmt) → (l f : Bool) → placedOpt { inLoop := l, inFunc := f, brkAnywhere := true } o = true →
    brkO l o = true → placedOpt { inLoop := l, inFunc := f, brkAnywhere := false } o = true :=
  fun o l f => strict_of_brk.2.1 l o f
theorem strict_of_brkEl : (es : List (Expr × List Stmt)) → (l f : Bool) →
    placedElifs { inLoop := l, inFunc := f, brkAnywhere := true } es = true → brkEl l es = true →
    placedElifs { inLoop := l, inFunc := f, brkAnywhere := false } es = true :=
  fun es l f => strict_of_brk.2.2.1 l es f

/-- **Acceptance does not depend on the target, from the source text on**: a program the parser accepts, without the two
    constructs that `PT.strictSs` excludes and with its `break`s in loops, is translated by BOTH emitters. -/
theorem accepted_programs_translate_for_both_targets (fs : FileSys) (main : String) (p : Parsed) (s : PSt)
    (h : Parser.parse fs main = .ok p s) (hs : PT.strictSs p.body = true) (hb : breaks_in_loops p.body = true) :
    (∃ sh, Bash.emitBash p.body = .ok sh) ∧ (∃ bat, Batch.emitBatch p.body = .ok bat) :=
  C06.acceptance_is_target_independent p.body
    (C06.parser_typed_and_strict_is_typed p.body (C06.accepted_programs_are_typed fs main p s h) hs)
    (strict_of_brkSs p.body false false (accepted_programs_are_placed fs main p s h) hb)

/-! ### names resolve lexically: every variable used is a visible one

`PT.useSs Γ ss` (Model/PTyped.lean): walking the statements in order with the list `Γ` of the variables visible so far -
a definition adds its variables for the statements after it in the same list, a block's definitions end with the block, a
function body starts again from the globals and the parameters, a loop header's variables are visible in the condition, the
step and the body - every variable that is read, assigned, element-assigned, copied into or counted up or down is a member
of `Γ`, as the very `Var` (stored name, type, global flag) that was introduced.  So no accepted program uses a variable
before its definition, after the end of its block, from the caller's locals, or with another type than it was introduced
with.  (The only-if half of "usable exactly from its definition to the end of its block"; the if half - everything in scope
is accepted - is measured by the scope generator of the check.) -/

/-- unused-function removal keeps the fact: a function definition introduces no variable -/
theorem useSs_filter (keep : Stmt → Bool) (hk : ∀ st, keep st = false → ∀ Γ, PT.declared Γ st = Γ) :
    ∀ (ss : List Stmt) (Γ : List Var), PT.useSs Γ ss = true → PT.useSs Γ (ss.filter keep) = true := by
  intro ss
  induction ss with
  | nil => intro _ _; rfl
  | cons st rest ih =>
    intro Γ h
    simp only [PT.useSs, Bool.and_eq_true] at h
    cases hks : keep st with
    | true =>
      simp only [List.filter_cons, hks, if_true, PT.useSs, Bool.and_eq_true]
      exact ⟨h.1, ih _ h.2⟩
    | false =>
      simp only [List.filter_cons, hks, Bool.false_eq_true, if_false]
      exact ih Γ (hk st hks Γ ▸ h.2)

theorem declaredAll_filter (keep : Stmt → Bool) (hk : ∀ st, keep st = false → ∀ Γ, PT.declared Γ st = Γ) :
    ∀ (ss : List Stmt) (Γ : List Var), PT.declaredAll Γ (ss.filter keep) = PT.declaredAll Γ ss := by
  intro ss
  induction ss with
  | nil => intro _; rfl
  | cons st rest ih =>
    intro Γ
    cases hks : keep st with
    | true =>
      simp only [List.filter_cons, hks, if_true, PT.declaredAll, List.foldl_cons]
      exact ih _
    | false =>
      simp only [List.filter_cons, hks, Bool.false_eq_true, if_false, PT.declaredAll, List.foldl_cons]
      rw [hk st hks Γ]
      exact ih _

/-- **Every variable an accepted program uses is visible where it is used** - in the file's own statements, with the
    imported statements in front of them as the outermost definitions (an imported file's own statements: next theorem). -/
theorem accepted_programs_use_visible_variables (fs : FileSys) (main : String) (p : Parsed) (s : PSt)
    (h : Parser.parse fs main = .ok p s) :
    ∃ imported own, p.body = imported ++ own ∧ PT.useSs (PT.declaredAll [] imported) own = true := by
  obtain ⟨raw, hraw, hcl⟩ := parse_eq_clean h
  obtain ⟨fuel, s0, he⟩ := parseRaw_of_ok hraw
  obtain ⟨imported, own, hb, hu⟩ := evalProgram_use _ _ _ _ _ _ _ _ he
  obtain ⟨keep, e, hkeep⟩ := cleanProgram_of_some hcl
  have hk : ∀ st, keep st = false → ∀ Γ, PT.declared Γ st = Γ := by
    intro st hst Γ
    obtain ⟨n, p, r, ps, bd, rfl⟩ := hkeep st hst
    rfl
  refine ⟨_, _, by rw [e, hb, List.filter_append], ?_⟩
  rw [declaredAll_filter keep hk]
  exact useSs_filter keep hk own _ hu

/-- the same for every file that is parsed on the way (imported files, at any nesting): its own statements use visible
    variables only -/
theorem parsed_files_use_visible_variables (depth : Nat) (fs : FileSys) (path : String) (importing : List String) (fuel : Nat)
    (s0 s' : PSt) (body : List Stmt) (h : evalProgram depth fs path importing fuel s0 = .ok body s') :
    ∃ imported own, body = imported ++ own ∧ PT.useSs (PT.declaredAll [] imported) own = true :=
  evalProgram_use depth fs path importing fuel s0 s' body h

/-- … and for every statement the statement parser returns, in any context whose variables are in `Γ` -/
theorem parsed_statement_uses_visible_variables (Γ : List Var) (fuel : Nat) (ctx : Ctx) (hc : VarsIn Γ ctx) (s s' : PSt) (st : Stmt)
    (h : evalStatement fuel ctx s = .ok st s') : PT.useS Γ st = true :=
  (useSIH_all fuel).statement Γ ctx hc s st s' h

/-! ### redefinition: which names of a definition must be new

Proved about the definition parser (`evaluateVarDefinition`, reached by `evaluateStatement` for `var …` and for `… := …`) in
EVERY context `ctx`: whenever it returns a statement, the statement defines one variable per written name, stored under the
name as written (under the file's prefix on the top level of an imported file) with the level's global flag, and
  * a definition of ONE name needs that name to be new (nothing visible is found under it),
  * a `var` definition needs ALL its names to be new,
  * a short definition of several names needs at least one new name; a name of it that exists on the same level is assigned
    to and keeps its type (`defFact`, third part: theorem `C06.definition_keeps_the_type_of_an_existing_variable`),
  * NO NAME IS WRITTEN TWICE in one definition (`hasDupNames names = false`; fix ebdb224: `a, a := 1, 2` had been accepted).
"New" is the parser's own lookup (`isNewVar`: `findVariable` finds nothing), so the theorem says what the lookup is used for,
not what it finds - that is the visibility theorem above and the scope skeletons. -/
theorem definitions_need_new_names (fuel : Nat) (ctx : Ctx) (s s' : PSt) (st : Stmt)
    (h : evalVarDefinition fuel ctx s = .ok st s') :
    ∃ (pfx : String) (names : List Tok) (short : Bool), names ≠ [] ∧ (defVars st).length = names.length ∧
      (∀ i (h1 : i < names.length) (h2 : i < (defVars st).length),
        (defVars st)[i].name = (if ctx.global then prefixed pfx names[i].val else names[i].val) ∧ (defVars st)[i].global = ctx.global) ∧
      (names.length = 1 → ∀ t ∈ names, isNewVar ctx pfx t.val = true) ∧
      (short = false → ∀ t ∈ names, isNewVar ctx pfx t.val = true) ∧
      (∃ t ∈ names, isNewVar ctx pfx t.val = true) ∧
      hasDupNames names = false := by
  obtain ⟨pfx, names, short, h1, h2, h3, h4, h5, h6, h7⟩ := def_varDefinition fuel ctx s st s' h
  exact ⟨pfx, names, short, h1, h2, fun i a b => ⟨(h3 i a b).1, (h3 i a b).2.1⟩, h4, h5, h6, h7⟩

/-- **A function is defined on the top level of a file, under a name no visible function has**: whenever the function-definition
    parser returns a statement, in any context, the context is the global scope (`program` on top of the scope stack) and the
    lookup `findFunction` finds nothing under the written name (for the file's prefix); the statement is the definition under
    the prefixed name. -/
theorem function_definitions_need_a_new_name_on_the_top_level (fuel : Nat) (ctx : Ctx) (s s' : PSt) (st : Stmt)
    (h : evalFunctionDefinition fuel ctx s = .ok st s') :
    ∃ (pfx : String) (nameTok : Tok) (pub : Bool) (rets : List ValueType) (params : List Var) (body : List Stmt),
      st = .funcDef (prefixed pfx nameTok.val) pub rets params body ∧ ctx.global = true ∧ ctx.findFunc nameTok.val pfx = none := by
  cases fuel with
  | zero => unfold evalFunctionDefinition at h; cases h
  | succ fuel =>
    obtain ⟨hg, hnew, -⟩ := (evalFunctionDefinition_run (anyWalk fuel) ctx).ok s st s' h
    exact ⟨_, _, _, _, _, _, rfl, hg, hnew⟩

private def fsOf (src : String) : FileSys := { files := [("/v/main.tsh", src.toUTF8.toList, "h0000000")], exeDir := "/x" }
private def accepted (src : String) : Option Program :=
  match Parser.parse (fsOf src) "/v/main.tsh" with
  | .ok p _ => some p.body
  | _ => none

#guard ((accepted "func f(a int) int {\n\tfor i := 0; i < a; i++ {\n\t\tif i == 2 {\n\t\t\tcontinue\n\t\t}\n\t\tif i == 3 {\n\t\t\tbreak\n\t\t}\n\t}\n\treturn a\n}\nprint(f(4))\n").map
  fun p => (placedStmts { brkAnywhere := true } p, breaks_in_loops p, placedStmts {} p)) == some (true, true, true)
-- misplaced constructs are rejected by the model
#guard (accepted "continue\n").isNone
#guard (accepted "return 1\n").isNone
#guard (accepted "if true {\n\tfunc g() {\n\t}\n}\n").isNone
#guard (accepted "break\n").isNone
#guard (accepted "switch 1 {\ncase 1:\n\tcontinue\n}\n").isNone
-- the known finding: `break` in a switch outside of a loop is accepted; it is placed only in the parser's sense
#guard ((accepted "switch 1 {\ncase 1:\n\tbreak\n}\n").map
  fun p => (placedStmts { brkAnywhere := true } p, breaks_in_loops p, placedStmts {} p)) == some (true, false, false)

-- variables: the predicate holds of an accepted program with globals, a function with parameters and locals, nested
-- blocks, a three-part loop, a range loop with index and element, a switch, copy and element assignment ...
private def scopeSrc : String :=
  "var g = 1\nxs := []int{1, 2}\nfunc f(a int) int {\n\tb := a + g\n\tif b > 1 {\n\t\tc := b\n\t\tb = c + 1\n\t}\n\treturn b\n}\n" ++
  "for i := 0; i < 2; i++ {\n\tg += i\n}\nfor k, v := range xs {\n\txs[k] = v + g\n}\nfor j := range \"ab\" {\n\tg = g + j\n}\n" ++
  "ys := []int{0, 0}\nn := copy(ys, xs)\nswitch n {\ncase 2:\n\tz := f(n)\n\tprint(z)\n}\ng++\n"
#guard ((accepted scopeSrc).map (PT.useSs [])) == some true
-- ... and it is a real constraint: the same predicate fails on ASTs that use a variable outside its scope
private def vI (n : String) (g : Bool) : Var := ⟨n, ⟨.int, false⟩, g, false⟩
-- use before the definition
#guard PT.useSs [] [.print [.varEval (vI "a" true)], .varDef [vI "a" true] [.intLit 1]] == false
-- use after the end of the block
#guard PT.useSs [] [.ifS (.boolLit true) [.varDef [vI "a" false] [.intLit 1]] [] [], .print [.varEval (vI "a" false)]] == false
-- a function body does not see the caller's locals (only globals and parameters)
#guard PT.useSs [] [.ifS (.boolLit true) [.varDef [vI "l" false] [.intLit 1],
    .funcDef "f" false [] [] [.print [.varEval (vI "l" false)]]] [] []] == false
#guard PT.useSs [] [.varDef [vI "g" true] [.intLit 1], .funcDef "f" false [] [vI "p" false] [.print [.varEval (vI "g" true), .varEval (vI "p" false)]]] == true
-- a variable used with another type than it was defined with
#guard PT.useSs [] [.varDef [vI "a" true] [.intLit 1], .print [.varEval ⟨"a", ⟨.string, false⟩, true, false⟩]] == false
-- assignment, element assignment, copy into, counting: the target must be visible too
#guard PT.useSs [] [.assign [vI "a" true] [.intLit 1]] == false
#guard PT.useSs [] [.sliceAssign ⟨"s", ⟨.int, true⟩, true, false⟩ (.intLit 0) (.intLit 1)] == false
#guard PT.useSs [] [.expr (.copy ⟨"s", ⟨.int, true⟩, true, false⟩ (.sliceNew .int []))] == false
-- a loop variable ends with the loop
#guard PT.useSs [] [.forS (some (.varDef [vI "i" false] [.intLit 0])) (.boolLit true) none [], .print [.varEval (vI "i" false)]] == false
-- the model rejects such programs
#guard (accepted "print(a)\na := 1\n").isNone
#guard (accepted "if true {\n\ta := 1\n}\nprint(a)\n").isNone
#guard (accepted "func f() {\n\tprint(l)\n}\nl := 1\nf()\n").isNone
#guard (accepted "for i := 0; i < 1; i++ {\n}\nprint(i)\n").isNone
#guard (accepted "for i, v := range \"ab\" {\n}\nprint(v)\n").isNone

-- redefinition: the model rejects what the theorem excludes and accepts what it allows
#guard (accepted "a := 1\na := 2\n").isNone
#guard (accepted "a := 1\nvar a int = 2\n").isNone
#guard (accepted "a := 1\nvar a, b int = 2, 3\n").isNone
#guard (accepted "a := 1\nvar b, a = 2, 3\n").isNone
#guard (accepted "a := 1\nb := 2\na, b := 3, 4\n").isNone
#guard (accepted "a := 1\na, b := 3, 4\nprint(a, b)\n").isSome
#guard (accepted "func f(p int) {\n\tp := 1\n}\n").isNone
#guard (accepted "g := 1\nfunc f() {\n\tg := 2\n}\n").isNone
#guard (accepted "g := 1\nfunc f() {\n\tg, h := 2, 3\n\tprint(g, h)\n}\n").isSome
#guard (accepted "func f() {\n}\nfunc f() {\n}\n").isNone
#guard (accepted "func f() {\n}\nfunc g() {\n}\nf()\ng()\n").isSome

end Tsh.C07
