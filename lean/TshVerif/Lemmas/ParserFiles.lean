/-
  The file level, for every pass.  A pass whose fact is threaded through an environment (signatures, visible variables) takes
  `ownStatements_pass`, which wants `register` without `okS` and `pushOK .program`: typing fails the first, placement the second.
  Their fact holds of each statement, survives sublist and append, and goes through the induction on the import depth,
  `fileGood_of` (instance: Lemmas/ParserTypedProg).
-/
import TshVerif.Lemmas.ParserStmtRuns
import TshVerif.Lemmas.ParserImports
namespace Tsh.Parser
open Tsh Tsh.Tr Tsh.LexTables

theorem registerImported_sub (ctx : Ctx) (stmts : List Stmt) :
    (registerImported ctx stmts).1.scopes = ctx.scopes ∧ ∀ x ∈ (registerImported ctx stmts).2, x ∈ stmts := by
  refine List.foldlRecOn (motive := fun acc => acc.1.scopes = ctx.scopes ∧ ∀ x ∈ acc.2, x ∈ stmts) stmts regStep (b := (ctx, [])) ⟨rfl, nofun⟩ fun acc h st hst => ?_
  obtain e | ⟨e, he, -⟩ := regStep_spec acc st
  · rwa [e]
  · rw [e]
    exact ⟨he.scopes.trans h.1, fun x hx => (List.mem_append.mp hx).elim (h.2 x) fun hx => List.mem_singleton.mp hx ▸ hst⟩

theorem registerImported_in {E : Type} {T : Pass E} {e0 : E} {ctx : Ctx} {stmts : List Stmt} (h0 : T.In e0 ctx)
    (hreg : ∀ env c c', ∀ st ∈ stmts, T.In env c → Enters st c c' → T.In (T.decl env st) c') :
    T.In ((registerImported ctx stmts).2.foldl T.decl e0) (registerImported ctx stmts).1 := by
  refine List.foldlRecOn (motive := fun acc => T.In (acc.2.foldl T.decl e0) acc.1) stmts regStep (b := (ctx, [])) h0 fun acc h st hst => ?_
  obtain e | ⟨e, he, -⟩ := regStep_spec acc st
  · rwa [e]
  · rw [e, List.foldl_append]
    exact hreg _ _ _ st hst h he

theorem cleanProgram_of_some {used : List (String × List String)} {body b : List Stmt} (h : cleanProgram used body = some b) :
    ∃ keep : Stmt → Bool, b = body.filter keep ∧ ∀ st, keep st = false → ∃ n p r ps bd, st = .funcDef n p r ps bd := by
  obtain ⟨keep, -, h⟩ := Option.bind_eq_some_iff.mp h
  refine ⟨_, (Option.some.inj h).symm, ?_⟩
  intro st hst
  split at hst
  · exact ⟨_, _, _, _, _, rfl⟩
  · cases hst

def FileGood (P : List Stmt → Prop) (depth : Nat) : Prop :=
  ∀ fs path imported importing, Good (parseFile depth fs path imported importing) (fun p => P p.body)

theorem evalProgram_good {J : Ctx × List Stmt → Prop} {P : List Stmt → Prop} {depth : Nat} {fs : FileSys} {path : String}
    {importing : List String} {fuel : Nat} {s0 : PSt} (hi : Good (evalImports depth fs path importing fuel {} s0) J)
    (hb : ∀ ctx imported pfx, J (ctx, imported) → Post (evalBlockContent fuel [TT_EOF] (fun _ _ => true)
      { ctx with imports := assocSet ctx.imports pfx pfx } .program) (fun own => P (imported ++ own))) :
    Good (evalProgram depth fs path importing fuel s0) P := by
  unfold evalProgram
  generalize evalImports _ _ _ _ _ _ _ = r1 at hi ⊢
  apply hi.elim; rintro ⟨ctx, imported⟩ s hJ
  dsimp only
  have h2 := (hb ctx imported s.pfx hJ).good s
  generalize evalBlockContent _ _ _ _ _ _ = r2 at h2 ⊢
  apply h2.elim; intro own _ h2
  exact h2

theorem fileGood_of {P : List Stmt → Prop}
    (hprog : ∀ {depth}, FileGood P depth → ∀ fs path importing fuel s0, Good (evalProgram depth fs path importing fuel s0) P)
    (hclean : ∀ {used body b}, cleanProgram used body = some b → P body → P b) : ∀ depth, FileGood P depth := by
  intro depth
  induction depth with
  | zero => intro fs path imported importing; unfold parseFile; trivial
  | succ depth ih =>
    intro fs path imported importing
    unfold parseFile
    refine Good.ite (fun _ => trivial) fun _ => Good.ite (fun _ => trivial) fun _ => ?_
    split
    · trivial
    split
    · trivial
    rename_i _ src hash _ _ toks _
    dsimp only
    have h1 := hprog ih fs path importing (fuelFor toks.size) { toks, pfx := if imported = true then hash else "" }
    generalize evalProgram _ _ _ _ _ _ = r1 at h1 ⊢
    apply h1.elim; rintro body s h1
    refine Good.ite (fun _ => h1) fun _ => ?_
    split
    · exact hclean ‹_› h1
    · trivial

/-- no file panics: the empty pass -/
theorem fileGood_any : ∀ depth, FileGood (fun _ => True) depth :=
  fileGood_of (fun hd fs path importing fuel s0 => evalProgram_good
    (evalImports_inv (I := fun _ _ => True) (J := fun _ => True) fs path importing fuel {} s0 (fun abs => hd fs abs true _)
      (fun _ _ _ _ _ _ => trivial) trivial trivial fun _ _ _ => trivial)
    fun _ _ _ _ => ((anyWalk fuel).blockContent () _ _ _ _ trivial trivial).mono fun _ _ => trivial) fun _ _ => trivial

/-- `Parse(path)` is `parse(path, imported = false)` at the top of the import graph -/
theorem parse_eq_parseFile (fs : FileSys) (main : String) : parse fs main = parseFile (fs.files.length + 2) fs main false [] := by
  unfold parse parseRaw parseFile
  simp only [List.contains_nil, Bool.false_eq_true, if_false]
  cases fs.stat main
  · rfl
  cases fs.read main with
  | none => rfl
  | some r =>
    dsimp only [Bool.not_true, Bool.false_eq_true, if_false]
    cases tokensOf r.1 with
    | none => rfl
    | some toks =>
      dsimp only
      cases evalProgram (fs.files.length + 1) fs main [] (fuelFor toks.size) { toks := toks } <;> rfl

theorem evalImports_of_ok {depth : Nat} {fs : FileSys} {path : String} {importing : List String} {fuel : Nat} {ctx : Ctx}
    {s0 s' : PSt} {r : Ctx × List Stmt} (h : evalImports depth fs path importing fuel ctx s0 = .ok r s') :
    ∃ imp stmts, r = registerImported { ctx with imports := imp } stmts :=
  (evalImports_inv (F := fun _ => True) (I := fun c _ => ∃ imp, c = { ctx with imports := imp })
    (J := fun r => ∃ imp stmts, r = registerImported { ctx with imports := imp } stmts) fs path importing fuel ctx s0
    (fun abs => fileGood_any depth fs abs true _)
    (fun _ _ _ _ ⟨imp, e⟩ _ => by subst e; exact ⟨_, rfl⟩) ⟨_, rfl⟩ ⟨_, [], rfl⟩ fun _ stmts ⟨imp, e⟩ => ⟨imp, stmts, by rw [e]⟩).ok h

theorem evalProgram_of_ok {depth : Nat} {fs : FileSys} {path : String} {importing : List String} {fuel : Nat} {s0 s' : PSt}
    {body : List Stmt} (h : evalProgram depth fs path importing fuel s0 = .ok body s') :
    ∃ ctx imported s own, evalImports depth fs path importing fuel {} s0 = .ok (ctx, imported) s ∧
      evalBlockContent fuel [TT_EOF] (fun _ _ => true) { ctx with imports := assocSet ctx.imports s.pfx s.pfx } .program s = .ok own s' ∧
      body = imported ++ own := by
  unfold evalProgram at h
  split at h
  · rename_i ctx imported s hi
    dsimp only at h
    split at h
    · rename_i own s2 hb
      simp only [PRes.ok.injEq] at h
      obtain ⟨rfl, rfl⟩ := h
      exact ⟨ctx, imported, s, own, hi, hb, rfl⟩
    · simp at h
    · simp at h
    · simp at h
  · simp at h
  · simp at h
  · simp at h

theorem ownStatements_pass {E : Type} {T : Pass E} (w : ∀ fuel, BlockIH T fuel) {e0 : E} (h0 : ∀ imp, T.In e0 { imports := imp })
    (himp : ∀ env c i, T.In env c → T.In env { c with imports := i })
    (hreg : ∀ env c c' st, T.In env c → Enters st c c' → T.In (T.decl env st) c') (hp : T.pushOK .program)
    {depth : Nat} {fs : FileSys} {path : String} {importing : List String} {fuel : Nat} {s0 s s' : PSt}
    {ctx : Ctx} {imported own : List Stmt} (hi : evalImports depth fs path importing fuel {} s0 = .ok (ctx, imported) s)
    (hb : evalBlockContent fuel [TT_EOF] (fun _ _ => true) { ctx with imports := assocSet ctx.imports s.pfx s.pfx } .program s = .ok own s') :
    T.okSs (T.push (imported.foldl T.decl e0) .program) own := by
  obtain ⟨imp, stmts, e⟩ := evalImports_of_ok hi
  have hc := registerImported_in (h0 imp) (stmts := stmts) fun env c c' st _ => hreg env c c' st
  rw [← e] at hc
  exact (((w fuel).blockContent _ _ _ _ _ (himp _ _ _ hc) hp).ok _ _ _ hb).1

theorem parseRaw_of_ok {fs : FileSys} {main : String} {raw : Parsed} {s : PSt} (h : parseRaw fs main = .ok raw s) :
    ∃ fuel s0, evalProgram (fs.files.length + 1) fs main [] fuel s0 = .ok raw.body s := by
  unfold parseRaw at h
  split at h
  · simp at h
  · split at h
    · simp at h
    · split at h
      · simp at h
      · dsimp only at h
        split at h
        · rename_i body s1 he
          simp only [PRes.ok.injEq] at h
          obtain ⟨rfl, rfl⟩ := h
          exact ⟨_, _, he⟩
        · simp at h
        · simp at h
        · simp at h

end Tsh.Parser
