/-
  ONE induction over the eight evaluation functions of the source semantics.  `RelOK K ds f f'`: what a run with fuel `f`
  gives, the run with fuel `f'` gives in the configuration whose table has lost the functions outside `K` (`none`: nothing is
  removed), provided every call goes to a kept function; and unless it ends the program or a definition can execute, the run
  leaves the table of functions and the flag `inFn` as they were.  Instances: fuel monotonicity (`K = none`); only a top-level
  definition changes the table (the postcondition); removing uncalled functions commutes with every run (`K = some keep`, in
  `Sem2Clean`).  The postcondition is what carries the simulation through a sequence (the bodies in the table stay what they
  were): hence one induction.
-/
import TshVerif.Lemmas.Sem2SrcFuns
namespace Tsh.Sem2.Src
open Tsh Tsh.Tr Tsh.Sem Tsh.Sem.Src

/-- two runs of the SOURCE interpreter (not the simulation by the compiled script, `Sem2Sim`): `y` gives what `x` gives, seen through
    `g`, and `Q` holds of it; nothing is claimed where `x` is stuck -/
inductive RunSim {α β : Type} (g : α → β) (Q : α → Prop) : Option α → Option β → Prop
  | stuck {y : Option β} : RunSim g Q none y
  | ret {r : α} : Q r → RunSim g Q (some r) (some (g r))

theorem RunSim.imp {α β : Type} {g : α → β} {Q Q' : α → Prop} {x : Option α} {y : Option β} (h : RunSim g Q x y) (hq : ∀ r, Q r → Q' r) :
    RunSim g Q' x y := by
  cases h with
  | stuck => exact .stuck
  | ret q => exact .ret (hq _ q)

theorem RunSim.ite {α β : Type} {g : α → β} {Q : α → Prop} {p : Prop} {i1 i2 : Decidable p} {a b : Option α} {a' b' : Option β}
    (h1 : p → RunSim g Q a a') (h2 : ¬p → RunSim g Q b b') : RunSim g Q (@ite _ p i1 a b) (@ite _ p i2 a' b') := by
  by_cases h : p
  · rw [if_pos h, if_pos h]; exact h1 h
  · rw [if_neg h, if_neg h]; exact h2 h

theorem RunSim.out {α β : Type} {g : α → β} {Q : α → Prop} {x : Option α} {y : Option β} (h : RunSim g Q x y) {r : α} (hr : x = some r) :
    y = some (g r) ∧ Q r := by
  cases h with
  | stuck => cases hr
  | ret q => cases hr; exact ⟨rfl, q⟩

theorem lookupFun_filter (keep : List String) : ∀ (funs : List FunDef) (name : String), keep.contains name = true →
    lookupFun (funs.filter (fun fd => keep.contains fd.name)) name = lookupFun funs name
  | [], _, _ => rfl
  | fd :: rest, name, hk => by
    rw [List.filter_cons]
    by_cases e : fd.name = name
    · simp only [e, hk, if_true, lookupFun]
    · have ih := lookupFun_filter keep rest name hk
      split <;> simp only [lookupFun, e, if_false, ih]

theorem lookupFun_mem : ∀ {funs : List FunDef} {name : String} {fd : FunDef}, lookupFun funs name = some fd → fd ∈ funs ∧ fd.name = name
  | g :: rest, name, fd, h => by
    simp only [lookupFun] at h
    split at h
    · rename_i e
      cases h
      exact ⟨List.mem_cons_self, e⟩
    · exact (lookupFun_mem h).imp_left (List.mem_cons_of_mem g)

/-- the kept functions of the table call kept functions only -/
def TOK (keep : List String) (funs : List FunDef) : Prop := ∀ fd ∈ funs, keep.contains fd.name = true → callsSs keep fd.body = true

theorem tok_same {keep : List String} {c c1 : SCfg} (h : SameF c c1) (ht : TOK keep c.funs) : TOK keep c1.funs := by
  rw [h.1]; exact ht

/-- the table without the functions outside `K` (`none`: all of it): `clK none c` is `c`, and every field of `clK K c` but `funs` is
    that of `c`, by `rfl` -/
def fK : Option (List String) → List FunDef → List FunDef
  | none, fs => fs
  | some keep, fs => fs.filter fun fd => keep.contains fd.name

def clK (K : Option (List String)) (c : SCfg) : SCfg := { c with funs := fK K c.funs }

/-- `clK` on the configuration in the result of an expression (`clKR`), of a statement (`clKS`) -/
def clKR {α : Type} (K : Option (List String)) : R α → R α
  | .ok a c => .ok a (clK K c)
  | .exit k c => .exit k (clK K c)

def clKS (K : Option (List String)) (p : SOut × SCfg) : SOut × SCfg := (p.1, clK K p.2)

/-- a condition on every set of kept names (none when nothing is removed) -/
def AllK (K : Option (List String)) (p : List String → Bool) : Prop := ∀ keep ∈ K, p keep = true

theorem AllK.and {K : Option (List String)} {a b : List String → Bool} (h : AllK K fun k => a k && b k) : AllK K a ∧ AllK K b :=
  ⟨fun k hk => (Bool.and_eq_true_iff.1 (h k hk)).1, fun k hk => (Bool.and_eq_true_iff.1 (h k hk)).2⟩

theorem AllK.and3 {K : Option (List String)} {a b c : List String → Bool} (h : AllK K fun k => a k && b k && c k) :
    AllK K a ∧ AllK K b ∧ AllK K c :=
  ⟨h.and.1.and.1, h.and.1.and.2, h.and.2⟩

theorem AllK.and4 {K : Option (List String)} {a b c d : List String → Bool} (h : AllK K fun k => a k && b k && c k && d k) :
    AllK K a ∧ AllK K b ∧ AllK K c ∧ AllK K d :=
  ⟨h.and.1.and.1.and.1, h.and.1.and.1.and.2, h.and.1.and.2, h.and.2⟩

def TOKK (K : Option (List String)) (funs : List FunDef) : Prop := ∀ keep ∈ K, TOK keep funs

theorem tokK_same {K : Option (List String)} {c c1 : SCfg} (h : SameF c c1) (ht : TOKK K c.funs) : TOKK K c1.funs := by
  rw [h.1]; exact ht

@[simp] theorem clK_heap (K : Option (List String)) (c : SCfg) : (clK K c).heap = c.heap := rfl
theorem readVar_clK (K : Option (List String)) (c : SCfg) (x : Var) : readVar (clK K c) x = readVar c x := rfl

theorem resolve_clK (K : Option (List String)) (c : SCfg) (o : Opd) : resolve (clK K c) o = resolve c o :=
  resolve_congr (c := c) (c' := clK K c) (fun _ => rfl) o

theorem resolveAll_clK (K : Option (List String)) (c : SCfg) (os : List Opd) : resolveAll (clK K c) os = resolveAll c os :=
  resolveAll_congr (c := c) (c' := clK K c) (fun _ => rfl) os

theorem lookupFun_filterK {K : Option (List String)} {name : String} (hk : AllK K (·.contains name)) (funs : List FunDef) :
    lookupFun (fK K funs) name = lookupFun funs name := by
  cases K with
  | none => rfl
  | some keep => exact lookupFun_filter keep funs name (hk keep rfl)

theorem storeVars_clK (K : Option (List String)) : ∀ (vars : List Var) (vs : List Val) (c : SCfg),
    storeVars (clK K c) vars vs = clK K (storeVars c vars vs)
  | [], _, _ => rfl
  | _ :: _, [], _ => rfl
  | x :: xs, v :: vs, c => by
    simp only [storeVars]
    have : writeVar (clK K c) x v = clK K (writeVar c x v) := by
      simp only [writeVar, show (clK K c).inFn = c.inFn from rfl]
      by_cases hb : (c.inFn && !x.global) = true
      · simp only [hb, if_true]; rfl
      · simp only [hb]; rfl
    rw [this]
    exact storeVars_clK K xs vs _

/-- no definition can execute: the run is inside a function, or `P` (the text holds none) -/
def NoDef (c : SCfg) (P : Prop) : Prop := c.inFn = true ∨ P

/-- of what an expression gives: unless it ended the program, table and flag are those of `c` -/
def QR {α : Type} (c : SCfg) : R α → Prop
  | .ok _ c1 => SameF c c1
  | .exit _ _ => True

/-- of what a statement gives: the same, where no definition could execute -/
def QS (c : SCfg) (P : Prop) : SOut × SCfg → Prop
  | (.exit _, _) => True
  | (_, c') => NoDef c P → SameF c c'

theorem QS.elim {c c' : SCfg} {P : Prop} {o : SOut} (h : QS c P (o, c')) (hne : ∀ k, o ≠ .exit k) (hp : NoDef c P) : SameF c c' := by
  cases o
  case exit k => exact absurd rfl (hne k)
  all_goals exact h hp

theorem QS.imp {c : SCfg} {P P' : Prop} {r : SOut × SCfg} (h : QS c P r) (hp : P' → P) : QS c P' r := by
  obtain ⟨o, c'⟩ := r
  cases o
  case exit => trivial
  all_goals exact fun hn => h (hn.imp_right hp)

theorem QS.after {c c1 : SCfg} {P P' : Prop} {r : SOut × SCfg} (h1 : NoDef c P' → SameF c c1) (hp : P' → P) (h2 : QS c1 P r) :
    QS c P' r := by
  obtain ⟨o, c'⟩ := r
  cases o
  case exit => trivial
  all_goals
    intro hn
    have s1 := h1 hn
    exact s1.trans (h2 (hn.imp s1.2.trans hp))

section
variable {K : Option (List String)} {γ : Type} {g : γ → γ} {Q : γ → Prop} {E : Nat → SCfg → γ} {c : SCfg} {x x' : Option (R (List Opd))}

theorem bindL_sim {Kf Kf' : List Opd → SCfg → Option γ} (hx : RunSim (clKR K) (QR c) x x') (ht : TOKK K c.funs)
    (hK : ∀ {os c1}, SameF c c1 → TOKK K c1.funs → RunSim g Q (Kf os c1) (Kf' os (clK K c1)))
    (hE : ∀ k c1, E k (clK K c1) = g (E k c1) ∧ Q (E k c1) := by intros; exact ⟨rfl, trivial⟩) :
    RunSim g Q (bindL x E Kf) (bindL x' E Kf') := by
  cases hx with
  | stuck => exact .stuck
  | @ret r s =>
    rcases r with ⟨os, c1⟩ | ⟨k, c1⟩
    · exact hK s (tokK_same s ht)
    · show RunSim g Q (some (E k c1)) (some (E k (clK K c1)))
      rw [(hE k c1).1]; exact .ret (hE k c1).2

theorem bindV_sim {x x' : Option (R (List Val))} {Kf Kf' : List Val → SCfg → Option γ} (hx : RunSim (clKR K) (QR c) x x')
    (ht : TOKK K c.funs) (hK : ∀ {vs c1}, SameF c c1 → TOKK K c1.funs → RunSim g Q (Kf vs c1) (Kf' vs (clK K c1)))
    (hE : ∀ k c1, E k (clK K c1) = g (E k c1) ∧ Q (E k c1) := by intros; exact ⟨rfl, trivial⟩) :
    RunSim g Q (bindV x E Kf) (bindV x' E Kf') := by
  cases hx with
  | stuck => exact .stuck
  | @ret r s =>
    rcases r with ⟨vs, c1⟩ | ⟨k, c1⟩
    · exact hK s (tokK_same s ht)
    · show RunSim g Q (some (E k c1)) (some (E k (clK K c1)))
      rw [(hE k c1).1]; exact .ret (hE k c1).2

theorem bind1_sim {Kf Kf' : Opd → SCfg → Option γ} (hx : RunSim (clKR K) (QR c) x x') (ht : TOKK K c.funs)
    (hK : ∀ {o c1}, SameF c c1 → TOKK K c1.funs → RunSim g Q (Kf o c1) (Kf' o (clK K c1)))
    (hE : ∀ k c1, E k (clK K c1) = g (E k c1) ∧ Q (E k c1) := by intros; exact ⟨rfl, trivial⟩) :
    RunSim g Q (bind1 x E Kf) (bind1 x' E Kf') := by
  cases hx with
  | stuck => exact .stuck
  | @ret r s =>
    rcases r with ⟨_ | ⟨o, _ | _⟩, c1⟩ | ⟨k, c1⟩
    · exact .stuck
    · exact hK s (tokK_same s ht)
    · exact .stuck
    · show RunSim g Q (some (E k c1)) (some (E k (clK K c1)))
      rw [(hE k c1).1]; exact .ret (hE k c1).2

end

theorem pure2_sim {K : Option (List String)} {c c2 : SCfg} {g : Val → Val → Option Val} {a b : Opd} (s : SameF c c2) :
    RunSim (clKR K) (QR c) (pure2 g a b c2) (pure2 g a b (clK K c2)) := by
  unfold pure2
  rw [resolve_clK, resolve_clK]
  split
  · split
    · exact .ret s
    · exact .stuck
  · exact .stuck

/-- for one pair of fuels; `ds` is the argument that `ndS` ignores -/
structure RelOK (K : Option (List String)) (ds : List String) (f f' : Nat) : Prop where
  evalE : ∀ {e c}, AllK K (callsE · e) → TOKK K c.funs → RunSim (clKR K) (QR c) (evalE f e c) (evalE f' e (clK K c))
  evalArgs : ∀ {es c}, AllK K (callsEs · es) → TOKK K c.funs → RunSim (clKR K) (QR c) (evalArgs f es c) (evalArgs f' es (clK K c))
  evalVals : ∀ {es c}, AllK K (callsEs · es) → TOKK K c.funs → RunSim (clKR K) (QR c) (evalVals f es c) (evalVals f' es (clK K c))
  evalCs : ∀ {el c}, AllK K (callsEl · el) → TOKK K c.funs → RunSim (clKR K) (QR c) (evalCs f el c) (evalCs f' el (clK K c))
  execS : ∀ {st c}, AllK K (callsS · st) → TOKK K c.funs →
    RunSim (clKS K) (QS c (ndS ds st = true)) (execS f st c) (execS f' st (clK K c))
  execSs : ∀ {sts c}, AllK K (callsSs · sts) → TOKK K c.funs →
    RunSim (clKS K) (QS c (ndSs ds sts = true)) (execSs f sts c) (execSs f' sts (clK K c))
  execEl : ∀ {el bs els c}, AllK K (callsEl · el) → AllK K (callsSs · els) → TOKK K c.funs →
    RunSim (clKS K) (QS c (ndEl ds el = true ∧ ndSs ds els = true)) (execEl f el bs els c) (execEl f' el bs els (clK K c))
  execLp : ∀ {cond incr body c}, AllK K (callsE · cond) → AllK K (callsO · incr) → AllK K (callsSs · body) → TOKK K c.funs →
    RunSim (clKS K) (QS c (ndO ds incr = true ∧ ndSs ds body = true)) (execLp f cond incr body c) (execLp f' cond incr body (clK K c))

section
variable {K : Option (List String)} {ds : List String}

theorem tokK_after {c c1 : SCfg} {p : List String → Bool} {P : Prop} (hc : AllK K p) (hP : ∀ keep, p keep = true → P)
    (ht : TOKK K c.funs) (h : NoDef c P → SameF c c1) : TOKK K c1.funs :=
  fun keep hk => tok_same (h (.inr (hP keep (hc keep hk)))) (ht keep hk)

theorem seqS_sim {c : SCfg} {P1 P2 : Prop} {p p' : Option (SOut × SCfg)} {Kf Kf' : SCfg → Option (SOut × SCfg)}
    (hp : RunSim (clKS K) (QS c P1) p p')
    (hK : ∀ {c1}, (NoDef c P1 → SameF c c1) → RunSim (clKS K) (QS c1 P2) (Kf c1) (Kf' (clK K c1))) :
    RunSim (clKS K) (QS c (P1 ∧ P2)) (seqS p Kf) (seqS p' Kf') := by
  cases hp with
  | stuck => exact .stuck
  | @ret r q =>
    obtain ⟨o, c1⟩ := r
    cases o
    case normal => exact (hK q).imp fun _ => QS.after (fun hn => q (hn.imp_right (·.1))) (·.2)
    all_goals exact .ret (QS.imp q (·.1))

end

section
variable {K : Option (List String)} {ds : List String} {f f' : Nat} (ih : RelOK K ds f f') {c : SCfg} (ht : TOKK K c.funs)
include ih ht

section
variable {γ : Type} {g : γ → γ} {Q : γ → Prop} {E : Nat → SCfg → γ}

theorem sim_one {Kf Kf' : Opd → SCfg → Option γ} {e : Expr} (hc : AllK K (callsE · e))
    (hK : ∀ {o c1}, SameF c c1 → TOKK K c1.funs → RunSim g Q (Kf o c1) (Kf' o (clK K c1)))
    (hE : ∀ k c1, E k (clK K c1) = g (E k c1) ∧ Q (E k c1) := by intros; exact ⟨rfl, trivial⟩) :
    RunSim g Q (bind1 (evalE f e c) E Kf) (bind1 (evalE f' e (clK K c)) E Kf') :=
  bind1_sim (ih.evalE hc ht) ht hK hE

theorem sim_two {Kf Kf' : Opd → Opd → SCfg → Option γ} {l r : Expr} (hc : AllK K fun k => callsE k l && callsE k r)
    (hK : ∀ {a b c2}, SameF c c2 → TOKK K c2.funs → RunSim g Q (Kf a b c2) (Kf' a b (clK K c2)))
    (hE : ∀ k c1, E k (clK K c1) = g (E k c1) ∧ Q (E k c1) := by intros; exact ⟨rfl, trivial⟩) :
    RunSim g Q (bind2 (evalE f) l r c E Kf) (bind2 (evalE f') l r (clK K c) E Kf') :=
  sim_one ih ht hc.and.1 (fun s1 t1 => sim_one ih t1 hc.and.2 (fun s2 => hK (s1.trans s2)) hE) hE

end

theorem sim_storeVals {vars : List Var} {vals : List Expr} {P : Prop} (hc : AllK K (callsEs · vals)) :
    RunSim (clKS K) (QS c P) (storeVals f vars vals c) (storeVals f' vars vals (clK K c)) := by
  unfold storeVals
  split
  · refine bindV_sim (ih.evalVals hc ht) ht fun {vs c1} s _ => ?_
    rw [storeVars_clK]
    exact .ret fun _ => s.trans (sameF_storeVars vars vs c1)
  · exact .stuck

theorem sim_storeCall {vars : List Var} {call : Expr} {P : Prop} (hc : AllK K (callsE · call)) :
    RunSim (clKS K) (QS c P) (storeCall f vars call c) (storeCall f' vars call (clK K c)) := by
  refine bindL_sim (ih.evalE hc ht) ht fun {os c1} s _ => ?_
  rw [resolveAll_clK]
  split
  · split
    · rw [storeVars_clK]
      exact .ret fun _ => s.trans (sameF_storeVars vars _ c1)
    · exact .stuck
  · exact .stuck

theorem sim_bindO {s : Option Stmt} {P : Prop} {Kf Kf' : SCfg → Option (SOut × SCfg)} (hs : AllK K (callsO · s))
    (hK : ∀ {c1}, (NoDef c (ndO ds s = true) → SameF c c1) → TOKK K c1.funs → RunSim (clKS K) (QS c1 P) (Kf c1) (Kf' (clK K c1))) :
    RunSim (clKS K) (QS c (ndO ds s = true ∧ P)) (bindO (execS f) s c Kf) (bindO (execS f') s (clK K c) Kf') := by
  cases s with
  | none => exact (hK (fun _ => .refl c) ht).imp fun _ q => q.imp (·.2)
  | some i =>
    simp only [bindO]
    rcases hx : execS f i c with _ | ⟨o, c1⟩
    · exact .stuck
    · obtain ⟨hx', q⟩ := (ih.execS (ds := ds) hs ht).out hx
      rw [hx']
      cases o
      case normal => exact (hK q (tokK_after hs (callsS_nds · ds _) ht q)).imp fun _ => QS.after (fun hn => q (hn.imp_right (·.1))) (·.2)
      case exit => exact .ret trivial
      all_goals exact .stuck

end

theorem sim_callRet {K : Option (List String)} {c c1 : SCfg} {rets : List ValueType} {fd : FunDef} {vals : List Val} {P : Prop}
    {p p' : Option (SOut × SCfg)} (s1 : SameF c c1) (hp : RunSim (clKS K) (QS (enter c1 fd vals) P) p p') :
    RunSim (clKR K) (QR c) (callRet rets c1 p) (callRet rets (clK K c1) p') := by
  cases hp with
  | stuck => exact .stuck
  | @ret r q =>
    obtain ⟨o, c2⟩ := r
    -- the body ran inside a function: it defined none, and the caller's flag is put back
    cases o
    case ret | normal =>
      simp only [callRet, clKS]; split
      · exact .ret ⟨(q (.inl rfl)).1.trans s1.1, s1.2⟩
      · exact .stuck
    case exit => exact .ret trivial
    all_goals exact .stuck

section
variable {K : Option (List String)} {ds : List String} {f f' : Nat} (ih : RelOK K ds f f') {c c0 : SCfg}
include ih

theorem sim_loopNext {cond : Expr} {incr : Option Stmt} {body : List Stmt} (s0 : SameF c c0) (t0 : TOKK K c0.funs)
    (hcc : AllK K (callsE · cond)) (hcn : AllK K (callsO · incr)) (hcb : AllK K (callsSs · body)) :
    RunSim (clKS K) (QS c (ndO ds incr = true ∧ ndSs ds body = true)) (loopNext f cond incr body (execSs f body c0))
      (loopNext f' cond incr body (execSs f' body (clK K c0))) := by
  rcases hb : execSs f body c0 with _ | ⟨o, cb⟩
  · exact .stuck
  · obtain ⟨hb', q⟩ := (ih.execSs hcb t0).out hb
    rw [hb']
    have next : (NoDef c0 (ndSs ds body = true) → SameF c0 cb) →
        RunSim (clKS K) (QS c (ndO ds incr = true ∧ ndSs ds body = true)) (bindO (execS f) incr cb (execLp f cond incr body))
          (bindO (execS f') incr (clK K cb) (execLp f' cond incr body)) := fun q =>
      (sim_bindO ih (tokK_after hcb (callsSs_nds · ds _) t0 q) hcn fun _ t2 => ih.execLp hcc hcn hcb t2).imp fun _ =>
        QS.after (fun hn => s0.trans (q (hn.imp s0.2.trans (·.2)))) fun h => ⟨h.1, h⟩
    cases o
    case normal | cont => exact next q
    case exit => exact .ret trivial
    all_goals exact .ret fun hn => s0.trans (q (hn.imp s0.2.trans (·.2)))

end

theorem relOK_succ {K : Option (List String)} {ds : List String} {f f' : Nat} (ih : RelOK K ds f f') : RelOK K ds (f + 1) (f' + 1) where
  evalE {e c} hc ht := by
    cases e
    case boolLit | varEval => exact .ret (.refl c)
    case intLit =>
      rw [evalE_intLit, evalE_intLit]; split
      · exact .ret (.refl c)
      · exact .stuck
    case strLit =>
      rw [evalE_strLit, evalE_strLit]; split
      · exact .ret (.refl c)
      · exact .stuck
    case group => exact ih.evalE hc ht
    case itoa => rw [evalE_itoa, evalE_itoa]; exact sim_one ih ht hc fun s _ => .ret s
    case unary =>
      rw [evalE_unary, evalE_unary]
      split
      · refine sim_one ih ht hc fun s _ => ?_
        rw [notT, notT, resolve_clK]
        split
        · exact .ret s
        · exact .stuck
      · exact .stuck
    case binary => rw [evalE_binary, evalE_binary]; exact sim_two ih ht hc fun s _ => pure2_sim s
    case compare => rw [evalE_compare, evalE_compare]; exact sim_two ih ht hc fun s _ => pure2_sim s
    case logical => rw [evalE_logical, evalE_logical]; exact sim_two ih ht hc fun s _ => pure2_sim s
    case call name rets args =>
      have hc := hc.and
      rw [evalE_call, evalE_call]
      refine bindL_sim (ih.evalArgs hc.2 ht) ht fun {os c1} s1 t1 => ?_
      rw [resolveAll_clK, show (clK K c1).funs = fK K c1.funs from rfl, lookupFun_filterK hc.1]
      split
      · rename_i vals fd _ hl
        split
        · obtain ⟨hmem, hname⟩ := lookupFun_mem hl
          exact sim_callRet s1 (ih.execSs (c := enter c1 fd vals) (fun k hk => t1 k hk fd hmem (hname ▸ hc.1 k hk)) t1)
        · exact .stuck
      · exact .stuck
    case sliceNew =>
      rw [evalE_sliceNew, evalE_sliceNew]
      refine bindL_sim (ih.evalArgs hc ht) ht fun s _ => ?_
      rw [sliceNewT, sliceNewT, resolveAll_clK]
      split
      · exact .ite (fun _ => .ret s) fun _ => .stuck
      · exact .stuck
    case sliceEval =>
      rw [evalE_sliceEval, evalE_sliceEval]
      refine sim_two ih ht hc fun s _ => ?_
      simp only [indexT, resolve_clK, clK_heap]
      split
      · split
        · split
          · exact .ret s
          · exact .stuck
        · exact .stuck
      · exact .stuck
    case substr value start stop =>
      cases stop with
      | none =>
        rw [evalE_substr_none, evalE_substr_none]
        refine sim_two ih ht hc fun s _ => ?_
        rw [substr1T, substr1T, resolve_clK, resolve_clK]
        split
        · split
          · split
            · exact .ret s
            · exact .stuck
          · exact .stuck
        · exact .stuck
      | some stop =>
        have hc := hc.and
        rw [evalE_substr_some, evalE_substr_some]
        refine sim_two ih ht hc.1 fun s2 t2 => ?_
        refine sim_one ih t2 hc.2 fun s3 _ => ?_
        simp only [substr2T, resolve_clK]
        split
        · split
          · split
            · exact .ret (s2.trans s3)
            · exact .stuck
          · exact .stuck
        · exact .stuck
    case len =>
      rw [evalE_len, evalE_len]
      refine sim_one ih ht hc fun s _ => ?_
      rw [lenT, lenT, resolve_clK]
      split
      · split
        · exact .ret s
        · exact .stuck
      · split
        · exact .stuck
        · exact .ret s
      · exact .stuck
    case copy =>
      rw [evalE_copy, evalE_copy]
      refine sim_one ih ht hc fun s _ => ?_
      rw [copyT, copyT, resolve_clK, readVar_clK]
      split
      · exact .ite (fun _ => .ret s) fun _ => .stuck
      · exact .stuck
    all_goals exact .stuck
  evalArgs {es c} hc ht := by
    cases es with
    | nil => exact .ret (.refl c)
    | cons e rest =>
      have hc := hc.and
      rw [evalArgs_cons, evalArgs_cons]
      refine sim_one ih ht hc.1 fun s1 t1 => ?_
      exact bindL_sim (ih.evalArgs hc.2 t1) t1 fun s2 _ => .ret (s1.trans s2)
  evalVals {es c} hc ht := by
    cases es with
    | nil => exact .ret (.refl c)
    | cons e rest =>
      have hc := hc.and
      rw [evalVals_cons, evalVals_cons]
      refine sim_one ih ht hc.1 fun s1 t1 => ?_
      rw [resolve_clK]
      split
      · exact bindV_sim (ih.evalVals hc.2 t1) t1 fun s2 _ => .ret (s1.trans s2)
      · exact .stuck
  evalCs {el c} hc ht := by
    cases el with
    | nil => exact .ret (.refl c)
    | cons p rest =>
      obtain ⟨e, b⟩ := p
      obtain ⟨he, _, hr⟩ := hc.and3
      rw [evalCs_cons, evalCs_cons]
      refine sim_one ih ht he fun s1 t1 => ?_
      exact bindL_sim (ih.evalCs hr t1) t1 fun s2 _ => .ret (s1.trans s2)
  execS {st c} hc ht := by
    cases st
    case varDef => rw [execS_varDef, execS_varDef]; exact sim_storeVals ih ht hc
    case assign => rw [execS_assign, execS_assign]; exact sim_storeVals ih ht hc
    case varDefCall => rw [execS_varDefCall, execS_varDefCall]; exact sim_storeCall ih ht hc
    case assignCall => rw [execS_assignCall, execS_assignCall]; exact sim_storeCall ih ht hc
    case sliceAssign =>
      rw [execS_sliceAssign, execS_sliceAssign]
      refine sim_two ih ht hc fun s _ => ?_
      rw [sliceAssignT, sliceAssignT, resolve_clK, resolve_clK, readVar_clK]
      split
      · split
        · exact .ite (fun _ => .ret fun _ => s) fun _ => .stuck
        · exact .stuck
      · exact .stuck
    case funcDef =>
      -- no set of kept names admits a definition here; where nothing is removed it runs as it is, and `NoDef` excludes it
      cases K with
      | some keep => cases hc keep rfl
      | none =>
        show RunSim _ _ (execS (f + 1) _ c) (execS (f' + 1) _ c)
        rw [execS_funcDef, execS_funcDef]
        split
        · exact .stuck
        · rename_i hin
          exact .ret fun hn => (hn.elim hin nofun).elim
    case ret =>
      rw [execS_ret, execS_ret]
      refine bindL_sim (ih.evalArgs hc ht) ht fun s _ => ?_
      rw [resolveAll_clK]
      split
      · exact .ret fun _ => s
      · exact .stuck
    case ifS cond body elifs els =>
      obtain ⟨hcc, hcb, hce, hcl⟩ := hc.and4
      rw [execS_ifS, execS_ifS]
      refine sim_one ih ht hcc fun s1 t1 => ?_
      refine bindL_sim (ih.evalCs hce t1) t1 fun s2 t2 => ?_
      rw [resolve_clK, resolveAll_clK]
      split
      · split
        · exact (ih.execSs hcb t2).imp fun _ => QS.after (fun _ => s1.trans s2) fun h => (ndS_ifS.1 h).1
        · exact (ih.execEl hce hcl t2).imp fun _ => QS.after (fun _ => s1.trans s2) fun h => (ndS_ifS.1 h).2
      · exact .stuck
    case forS init cond incr body =>
      obtain ⟨hci, hcc, hcn, hcb⟩ := hc.and4
      rw [execS_forS, execS_forS]
      exact (sim_bindO ih ht hci fun _ t1 => ih.execLp hcc hcn hcb t1).imp fun _ q => q.imp ndS_forS.1
    case brk | cont => exact .ret fun _ => .refl c
    case print =>
      rw [execS_print, execS_print]
      refine bindL_sim (ih.evalArgs hc ht) ht fun s _ => ?_
      rw [resolveAll_clK]
      split
      · exact .ret fun _ => s
      · exact .stuck
    case panic =>
      rw [execS_panic, execS_panic]
      refine sim_one ih ht hc fun _ _ => ?_
      rw [resolve_clK]
      split
      · exact .ret trivial
      · exact .stuck
    case expr e =>
      cases e
      case call name rets args =>
        rw [execS_expr_call, execS_expr_call]
        exact bindL_sim (ih.evalE hc ht) ht fun s _ => .ret fun _ => s
      all_goals exact .stuck
  execSs {sts c} hc ht := by
    cases sts with
    | nil => exact .ret fun _ => .refl c
    | cons st rest =>
      have hc := hc.and
      rw [execSs_cons, execSs_cons]
      exact (seqS_sim (ih.execS hc.1 ht) fun q => ih.execSs hc.2 (tokK_after hc.1 (callsS_nds · ds _) ht q)).imp fun _ q => q.imp ndSs_cons.1
  execEl {el bs els c} hce hcl ht := by
    cases el with
    | nil => exact (ih.execSs hcl ht).imp fun _ q => q.imp (·.2)
    | cons p rest =>
      cases bs with
      | nil => exact (ih.execSs hcl ht).imp fun _ q => q.imp (·.2)
      | cons b bs =>
        obtain ⟨e, body⟩ := p
        obtain ⟨_, hb, hr⟩ := hce.and3
        rw [execEl_cons, execEl_cons]
        split
        · exact (ih.execSs hb ht).imp fun _ q => q.imp fun h => (ndEl_cons.1 h.1).1
        · exact (ih.execEl hr hcl ht).imp fun _ q => q.imp fun h => ⟨(ndEl_cons.1 h.1).2, h.2⟩
        · exact .stuck
  execLp {cond incr body c} hcc hcn hcb ht := by
    rw [execLp_succ, execLp_succ]
    refine sim_one ih ht hcc fun s0 t0 => ?_
    rw [resolve_clK]
    split
    · exact sim_loopNext ih s0 t0 hcc hcn hcb
    · exact .ret fun _ => s0
    · exact .stuck

theorem relOK (K : Option (List String)) (ds : List String) (d : Nat) : ∀ f, RelOK K ds f (f + d)
  | 0 => by constructor <;> intros <;> exact .stuck
  | f + 1 => Nat.add_right_comm f 1 d ▸ relOK_succ (relOK K ds d f)

/-! the instances at `K = none` -/

theorem execSs_le {f g : Nat} (h : f ≤ g) {sts : List Stmt} {c : SCfg} {r : SOut × SCfg} (hr : execSs f sts c = some r) :
    execSs g sts c = some r := by
  obtain ⟨d, rfl⟩ := Nat.le.dest h
  exact (((relOK none [] d f).execSs nofun nofun).out hr).1

theorem runProgram_le {f g : Nat} (h : f ≤ g) {p : Program} {r : Nat × List String} (hr : runProgram f p = some r) :
    runProgram g p = some r := by
  unfold runProgram at hr ⊢
  cases e : execSs f p SCfg.init with
  | none => rw [e] at hr; cases hr
  | some x => rw [execSs_le h e]; rw [e] at hr; exact hr

theorem runProgram_fuel_independent {f1 f2 : Nat} {p : Program} {r1 r2 : Nat × List String}
    (h1 : runProgram f1 p = some r1) (h2 : runProgram f2 p = some r2) : r1 = r2 :=
  Option.some.inj ((runProgram_le (Nat.le_max_left f1 f2) h1).symm.trans (runProgram_le (Nat.le_max_right f1 f2) h2))

theorem funs_execSs (f : Nat) (ds : List String) {sts : List Stmt} {c c' : SCfg} {o : SOut} (hctx : c.inFn = true ∨ ndSs ds sts = true)
    (h : execSs f sts c = some (o, c')) (hne : ∀ k, o ≠ .exit k) : SameF c c' :=
  (((relOK none ds 0 f).execSs nofun nofun).out h).2.elim hne hctx

theorem funs_execS (f : Nat) (ds : List String) {st : Stmt} {c c' : SCfg} {o : SOut} (hctx : c.inFn = true ∨ ndS ds st = true)
    (h : execS f st c = some (o, c')) (hne : ∀ k, o ≠ .exit k) : SameF c c' :=
  (((relOK none ds 0 f).execS nofun nofun).out h).2.elim hne hctx

end Tsh.Sem2.Src
