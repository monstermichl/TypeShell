/-
  What "the same table of functions" (`SameF`) and "defines no function" (`ndS`) mean, and that neither the statements of the
  fragment (`fragS`) nor those whose calls are accounted for (`callsS`) define one.  That runs respect it is part of `Sem2Rel`.
-/
import TshVerif.Lemmas.Sem2SrcEqs
namespace Tsh.Sem2.Src
open Tsh Tsh.Tr Tsh.Sem Tsh.Sem.Src

theorem and3 {a b c : Bool} (h : (a && b && c) = true) : a = true ∧ b = true ∧ c = true := by
  simp only [Bool.and_eq_true] at h; exact ⟨h.1.1, h.1.2, h.2⟩

theorem and4 {a b c d : Bool} (h : (a && b && c && d) = true) : a = true ∧ b = true ∧ c = true ∧ d = true := by
  simp only [Bool.and_eq_true] at h; exact ⟨h.1.1.1, h.1.1.2, h.1.2, h.2⟩

def SameF (c c' : SCfg) : Prop := c'.funs = c.funs ∧ c'.inFn = c.inFn

theorem SameF.refl (c : SCfg) : SameF c c := ⟨rfl, rfl⟩
theorem SameF.trans {a b c : SCfg} (h1 : SameF a b) (h2 : SameF b c) : SameF a c := ⟨h2.1.trans h1.1, h2.2.trans h1.2⟩

theorem R.sameOk {c : SCfg} {α : Type} {r : R α} (h : match r with | .ok _ c1 => SameF c c1 | .exit _ _ => True) {a : α} {c1 : SCfg}
    (e : r = .ok a c1) : SameF c c1 := by subst e; exact h

theorem sameF_writeVar (c : SCfg) (x : Var) (v : Val) : SameF c (writeVar c x v) := by
  simp only [writeVar]; split <;> exact ⟨rfl, rfl⟩

theorem sameF_storeVars : ∀ (vars : List Var) (vs : List Val) (c : SCfg), SameF c (storeVars c vars vs)
  | [], _, c => .refl c
  | _ :: _, [], c => .refl c
  | x :: xs, v :: vs, c => (sameF_writeVar c x v).trans (sameF_storeVars xs vs _)

/-! `ds` is not used and a `true &&` stands where `fragS ds` tests an expression: `ndS ds st` has the shape of `fragS ds st`, so that
  `and3`/`and4` take both apart alike. -/

mutual
def ndS (ds : List String) : Stmt → Bool
  | .funcDef _ _ _ _ _ => false
  | .ifS _ body elifs els => true && ndSs ds body && ndEl ds elifs && ndSs ds els
  | .forS init _ incr body => ndO ds init && true && ndO ds incr && ndSs ds body
  | _ => true
def ndSs (ds : List String) : List Stmt → Bool
  | [] => true
  | s :: rest => ndS ds s && ndSs ds rest
def ndEl (ds : List String) : List (Expr × List Stmt) → Bool
  | [] => true
  | (_, b) :: rest => true && ndSs ds b && ndEl ds rest
def ndO (ds : List String) : Option Stmt → Bool
  | none => true
  | some s => ndS ds s
end

section
variable {ds : List String} {cond e : Expr} {body els rest : List Stmt} {el : List (Expr × List Stmt)} {init incr : Option Stmt} {s : Stmt}

theorem ndS_ifS : ndS ds (.ifS cond body el els) = true ↔ ndSs ds body = true ∧ ndEl ds el = true ∧ ndSs ds els = true := by
  simp only [ndS, Bool.true_and, Bool.and_eq_true, and_assoc]

theorem ndS_forS : ndS ds (.forS init cond incr body) = true ↔ ndO ds init = true ∧ ndO ds incr = true ∧ ndSs ds body = true := by
  simp only [ndS, Bool.and_true, Bool.and_eq_true, and_assoc]

theorem ndSs_cons : ndSs ds (s :: rest) = true ↔ ndS ds s = true ∧ ndSs ds rest = true := by
  simp only [ndSs, Bool.and_eq_true]

theorem ndEl_cons : ndEl ds ((e, body) :: el) = true ↔ ndSs ds body = true ∧ ndEl ds el = true := by
  simp only [ndEl, Bool.true_and, Bool.and_eq_true]

end

mutual
theorem fragS_nd (ds : List String) : ∀ (st : Stmt), fragS ds st = true → ndS ds st = true
  | .ifS c body elifs els, h =>
    have ⟨_, hb, he, hl⟩ := and4 h
    ndS_ifS.2 ⟨fragSs_nd ds body hb, fragEl_nd ds elifs he, fragSs_nd ds els hl⟩
  | .forS init c incr body, h =>
    have ⟨hi, _, hn, hb⟩ := and4 h
    ndS_forS.2 ⟨fragO_nd ds init hi, fragO_nd ds incr hn, fragSs_nd ds body hb⟩
  | .funcDef _ _ _ _ _, h => by cases h
  | .varDef _ _, _ | .varDefCall _ _, _ | .assign _ _, _ | .assignCall _ _, _ | .sliceAssign _ _ _, _ | .ret _, _ | .brk, _ | .cont, _
  | .print _, _ | .panic _, _ | .expr _, _ => rfl
theorem fragSs_nd (ds : List String) : ∀ (sts : List Stmt), fragSs ds sts = true → ndSs ds sts = true
  | [], _ => rfl
  | s :: rest, h =>
    have ⟨hs, hr⟩ := Bool.and_eq_true_iff.1 h
    ndSs_cons.2 ⟨fragS_nd ds s hs, fragSs_nd ds rest hr⟩
theorem fragEl_nd (ds : List String) : ∀ (el : List (Expr × List Stmt)), fragEl ds el = true → ndEl ds el = true
  | [], _ => rfl
  | (_, b) :: rest, h =>
    have ⟨_, hb, hr⟩ := and3 h
    ndEl_cons.2 ⟨fragSs_nd ds b hb, fragEl_nd ds rest hr⟩
theorem fragO_nd (ds : List String) : ∀ (o : Option Stmt), fragO ds o = true → ndO ds o = true
  | none, _ => rfl
  | some s, h => fragS_nd ds s h
end

mutual
theorem callsS_nds (keep ds : List String) : ∀ (st : Stmt), callsS keep st = true → ndS ds st = true
  | .ifS c body elifs els, h =>
    have ⟨_, hb, he, hl⟩ := and4 h
    ndS_ifS.2 ⟨callsSs_nds keep ds body hb, callsEl_nds keep ds elifs he, callsSs_nds keep ds els hl⟩
  | .forS init c incr body, h =>
    have ⟨hi, _, hn, hb⟩ := and4 h
    ndS_forS.2 ⟨callsO_nds keep ds init hi, callsO_nds keep ds incr hn, callsSs_nds keep ds body hb⟩
  | .funcDef _ _ _ _ _, h => by cases h
  | .varDef _ _, _ | .varDefCall _ _, _ | .assign _ _, _ | .assignCall _ _, _ | .sliceAssign _ _ _, _ | .ret _, _ | .brk, _ | .cont, _
  | .print _, _ | .panic _, _ | .expr _, _ => rfl
theorem callsSs_nds (keep ds : List String) : ∀ (sts : List Stmt), callsSs keep sts = true → ndSs ds sts = true
  | [], _ => rfl
  | s :: rest, h =>
    have ⟨hs, hr⟩ := Bool.and_eq_true_iff.1 h
    ndSs_cons.2 ⟨callsS_nds keep ds s hs, callsSs_nds keep ds rest hr⟩
theorem callsEl_nds (keep ds : List String) : ∀ (el : List (Expr × List Stmt)), callsEl keep el = true → ndEl ds el = true
  | [], _ => rfl
  | (_, b) :: rest, h =>
    have ⟨_, hb, hr⟩ := and3 h
    ndEl_cons.2 ⟨callsSs_nds keep ds b hb, callsEl_nds keep ds rest hr⟩
theorem callsO_nds (keep ds : List String) : ∀ (o : Option Stmt), callsO keep o = true → ndO ds o = true
  | none, _ => rfl
  | some s, h => callsS_nds keep ds s h
end

theorem callsEl_nd (keep : List String) : ∀ (el : List (Expr × List Stmt)), callsEl keep el = true → ndEl [] el = true :=
  callsEl_nds keep []
theorem callsO_nd (keep : List String) : ∀ (o : Option Stmt), callsO keep o = true → ndO [] o = true :=
  callsO_nds keep []

end Tsh.Sem2.Src
