/-
  The four recursive routines of the bash converter (`storeRets`, `copyRets`, `localParams`, `sahInits`) and the three operations
  built on them (`funcCall`, `funcStart`, `sliceInstantiation`) as equations: the lines each appends, in order, and the state it
  leaves.  The lines depend on the state only through the names it gives (`varName s`), so the functions that list them take
  the naming function.  Props/C02 and Props/C03 state the equations as properties (hence the namespaces), Lemmas/Sem2* gives
  the lines their meaning, Lemmas/BashTotal reads off that the operations run.  Last, the two halves of the loop increment.
-/
import TshVerif.Model.ConvBash
namespace Tsh.C02
open Tsh Tsh.Tr Tsh.Bash

/-- the lines `return v0, v1, …` emits -/
def retLines : List String → Nat → List Line
  | [], _ => []
  | v :: rest, i => .assign s!"_rv{i}" v :: retLines rest (i + 1)

theorem storeRets_run : ∀ (vs : List String) (i : Nat) (s : St),
    storeRets vs i s = .ok ((), { s with code := (retLines vs i).reverse ++ s.code }) := by
  intro vs
  induction vs with
  | nil => intro i s; simp [storeRets, retLines, pure]
  | cons v rest ih =>
    intro i s
    unfold storeRets
    simp only [bind, varAssignment, Tr.get, addLine, Tr.modify, varName, Bool.not_true, Bool.and_false, Bool.false_eq_true, if_false]
    rw [ih]
    simp [retLines]

/-- the shell name of helper variable `k` where the converter stands -/
def helperAt (s : St) (k : Nat) : String := varName s s!"_h{k}" false

theorem helperAt_upd (s : St) (a : Nat) (b : List Line) : helperAt { s with varCounter := a, code := b } = helperAt s := rfl

/-- the lines a used call emits after the call line; `hn k` is the shell name of helper `k` -/
def copyLines (hn : Nat → String) : Nat → Nat → Nat → List Line
  | 0, _, _ => []
  | n + 1, i, k => .assign (hn k) ("${" ++ s!"_rv{i}" ++ "}") :: copyLines hn n (i + 1) (k + 1)

/-- the references to those helpers -/
def copyVals (hn : Nat → String) : Nat → Nat → List String
  | 0, _ => []
  | n + 1, k => ("${" ++ hn k ++ "}") :: copyVals hn n (k + 1)

theorem copyRets_run : ∀ (n i : Nat) (s : St),
    copyRets n i s = .ok (copyVals (helperAt s) n s.varCounter,
      { s with varCounter := s.varCounter + n, code := (copyLines (helperAt s) n i s.varCounter).reverse ++ s.code }) := by
  intro n
  induction n with
  | zero => intro i s; simp [copyRets, copyLines, copyVals, pure]
  | succ n ih =>
    intro i s
    unfold copyRets
    simp only [bind, nextHelperVar, Tr.get, varAssignment, addLine, Tr.modify, varEvaluation, pure]
    rw [ih]
    simp [copyLines, copyVals, helperAt_upd, helperAt, varName, varEvalString, inFunction, Nat.add_assoc, Nat.add_comm 1 n]

theorem copyVals_length (hn : Nat → String) : ∀ (n k : Nat), (copyVals hn n k).length = n
  | 0, _ => rfl
  | n + 1, k => congrArg (· + 1) (copyVals_length hn n (k + 1))

theorem funcCall_run (name : String) (args : List String) (rets : List ValueType) (s : St) :
    funcCall name args rets true s = .ok (copyVals (helperAt s) rets.length s.varCounter,
      { s with varCounter := s.varCounter + rets.length,
               code := (copyLines (helperAt s) rets.length 0 s.varCounter).reverse ++ .callFn name args :: s.code }) := by
  simp only [funcCall, bind, addLine, Tr.modify, ↓reduceIte, copyRets_run, pure, copyVals_length, Nat.sub_self, List.replicate_zero,
    List.append_nil]
  rfl

/-- the `local` lines of a function head; `nm p` is the shell name of parameter `p` -/
def paramLines (nm : String → String) : List String → Nat → List Line
  | [], _ => []
  | p :: rest, i => .localAssign (nm p) (i + 1) :: paramLines nm rest (i + 1)

theorem localParams_run : ∀ (ps : List String) (i : Nat) (s : St),
    localParams ps i s = .ok ((), { s with code := (paramLines (varName s · false) ps i).reverse ++ s.code }) := by
  intro ps
  induction ps with
  | nil => intro i s; simp [localParams, paramLines, pure]
  | cons p rest ih =>
    intro i s
    unfold localParams
    simp only [bind, Tr.get, addLine, Tr.modify]
    rw [ih]
    simp [paramLines, varName, inFunction]

theorem funcStart_run (name : String) (ps : List String) (s : St) :
    conv.funcStart name ps s = .ok ((), { s with
      funcs := name :: s.funcs, funcCounter := s.funcCounter + 1,
      code := (paramLines (varName { s with funcs := name :: s.funcs, funcCounter := s.funcCounter + 1 } · false) ps 0).reverse ++
        .funcStart name :: s.code }) :=
  localParams_run ps 0 _

end Tsh.C02

namespace Tsh.C03
open Tsh Tsh.Tr Tsh.Bash

/-- the element stores of a slice literal: `_sah arr i v` without a default, for `i` = 0, 1, … -/
def initLines (arr : String) : List String → Nat → List Line
  | [], _ => []
  | v :: rest, i => .sahInit arr i v :: initLines arr rest (i + 1)

theorem sahInits_run (arr : String) : ∀ (vs : List String) (i : Nat) (s : St),
    sahInits arr vs i s = .ok ((), { s with code := (initLines arr vs i).reverse ++ s.code,
                                            sahReq := s.sahReq || !vs.isEmpty }) := by
  intro vs
  induction vs with
  | nil => intro i s; simp [sahInits, initLines, pure]
  | cons v rest ih =>
    intro i s
    unfold sahInits
    simp only [bind, Tr.modify, addLine]
    rw [ih]
    simp [initLines]

theorem sliceInstantiation_run (vals : List String) (s : St) :
    sliceInstantiation vals s =
      .ok (varEvalString s s!"_h{s.varCounter}" false,
        { s with varCounter := s.varCounter + 1,
                 sahReq := s.sahReq || !vals.isEmpty,
                 code := (initLines (varEvalString s s!"_h{s.varCounter}" false) vals 0).reverse ++
                         (.assign (varName s s!"_h{s.varCounter}" false) ("_dv" ++ varEvalString s "_dvc" true) :: .dvcIncr :: s.code) }) := by
  unfold sliceInstantiation
  simp only [bind, Tr.get, addLine, Tr.modify, nextHelperVar, varAssignment, pure]
  rw [sahInits_run]
  rfl

end Tsh.C03

namespace Tsh.Bash
open Tsh Tsh.Tr

theorem currentForVar_ok {s : St} {n : Nat} {rest : List Nat} (hf : s.fors = n :: rest) : currentForVar s = .ok (n, s) := by
  unfold currentForVar; rw [hf]

theorem forIncrementStart_run (s : St) (n : Nat) (rest : List Nat) (hf : s.fors = n :: rest) :
    conv.forIncrementStart s = .ok ((), { s with code := .incrStart n :: s.code }) := by
  show (currentForVar >>= fun n => addLine (.incrStart n)) s = _
  simp only [bind, currentForVar_ok hf]; rfl

theorem forIncrementEnd_run (s : St) (n : Nat) (rest : List Nat) (hf : s.fors = n :: rest) :
    conv.forIncrementEnd s = .ok ((), { s with code := .incrFlagSet n :: .fi :: s.code }) := by
  show (currentForVar >>= fun n => (do addLine .fi; addLine (.incrFlagSet n))) s = _
  simp only [bind, currentForVar_ok hf]; rfl

end Tsh.Bash
