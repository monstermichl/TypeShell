/-
  The typed pass on contexts: `CtxOK` is kept by the parser's operations on contexts; a typed expression has a known type.
-/
import TshVerif.Lemmas.ParserTypedExpr
namespace Tsh.Parser
open Tsh Tsh.Tr Tsh.LexTables

theorem known_of_isBool {vt : ValueType} (h : vt.isBool = true) : PT.known vt = true := by
  obtain ⟨dt, sl⟩ := vt
  cases dt <;> first | rfl | cases h

theorem known_elem {vt : ValueType} (h : PT.known vt = true) : PT.known ⟨vt.dt, false⟩ = true := by
  obtain ⟨dt, sl⟩ := vt
  cases dt <;> first | rfl | cases h

theorem known_slice_basic {vt : ValueType} (hk : PT.known vt = true) (hs : vt.isSlice = true) : basicDt vt.dt = true := by
  obtain ⟨dt, sl⟩ := vt
  cases sl
  · cases hs
  · cases dt <;> first | rfl | cases hk

theorem expr_known : (e : Expr) → PT.expr e = true → PT.known (Expr.valueType e) = true
  | .boolLit _, _ | .intLit _, _ | .strLit _, _ => rfl
  | .varEval v, h => h
  | .unary _ x vt, h => by
      simp only [PT.expr, Bool.and_eq_true, beq_iff_eq] at h
      simp only [Expr.valueType]
      rw [h.2]; exact known_of_isBool h.1.2
  | .binary _ l _, h => by
      simp only [PT.expr, Bool.and_eq_true] at h
      exact expr_known l h.1.1.1
  | .compare _ _ _, _ | .logical _ _ _, _ => rfl
  | .group x, h => expr_known x h
  | .call _ rets _, h => by
      simp only [PT.expr, Bool.and_eq_true] at h
      rcases rets with _ | ⟨t, _ | _⟩
      · rfl
      · exact basic_known (vt := t) (by simpa using h.2)
      · rfl
  | .app _ _ _, _ => rfl
  | .sliceNew dt _, h => by
      simp only [PT.expr, Bool.and_eq_true] at h
      have hb := h.2
      cases dt <;> first | rfl | cases hb
  | .sliceEval v _ dt, h => by
      simp only [PT.expr, Bool.and_eq_true, beq_iff_eq] at h
      have := known_elem (expr_known v h.1.1.1.1)
      simp only [Expr.valueType]
      rw [h.2]; exact this
  | .substr _ _ _, _ | .len _, _ | .itoa _, _ | .exists_ _, _ | .read _, _ | .input _, _ | .copy _ _, _ => rfl
  | .write _ _ _, h | .bad _, h => by cases h

theorem exprs_known {es : List Expr} (h : PT.exprs es = true) : (es.map Expr.valueType).all PT.known = true := by
  induction es with
  | nil => rfl
  | cons e r ih =>
    simp only [PT.exprs, Bool.and_eq_true] at h
    simp [expr_known e h.1, ih h.2]

theorem vals1_exprs {es : List Expr} (h : PT.vals1 es = true) : PT.exprs es = true := by
  induction es with
  | nil => rfl
  | cons e r ih =>
    simp only [PT.vals1, Bool.and_eq_true] at h
    simp [PT.exprs, h.1.1, ih h.2]

theorem CtxOK.push {c : Ctx} (h : CtxOK c) (s : Scope) : CtxOK (c.push s) := ⟨h.vars, h.funcs⟩

theorem CtxOK.imports {c : Ctx} (h : CtxOK c) (i : List (String × String)) : CtxOK { c with imports := i } :=
  ⟨h.vars, h.funcs⟩

theorem CtxOK.filterVars {c : Ctx} (h : CtxOK c) (p : String × Var → Bool) :
    CtxOK { c with vars := c.vars.filter p } :=
  ⟨fun e he => h.vars e (List.mem_filter.mp he).1, h.funcs⟩

theorem CtxOK.empty : CtxOK {} := ⟨by simp, by simp⟩

theorem CtxOK.setVar {c : Ctx} (h : CtxOK c) (k : String) (v : Var) (hv : PT.known v.vt = true) :
    CtxOK { c with vars := assocSet c.vars k v } := by
  refine ⟨?_, h.funcs⟩
  intro e he
  rcases assocSet_mem he with h1 | h1
  · exact h.vars e h1
  · subst h1; exact hv

theorem CtxOK.addVars {pfx : String} {g : Bool} {vs : List Var} {c c' : Ctx} (h : CtxOK c) (hk : PT.varsKnown vs = true)
    (he : c.addVars pfx g vs = some c') : CtxOK c' := by
  obtain ⟨vars, rfl, hv⟩ := addVars_ctx he
  exact ⟨fun e he => (hv e he).elim (h.vars e) (List.all_eq_true.mp hk e.2), h.funcs⟩

theorem basic_params_known {ps : List Var} (h : ps.all (fun p => PT.basic p.vt) = true) : PT.varsKnown ps = true := by
  simp only [PT.varsKnown, List.all_eq_true] at h ⊢
  exact fun v hv => basic_known (h v hv)

theorem CtxOK.enters {st : Stmt} {c c' : Ctx} (h : CtxOK c) (hs : stmtP st) (he : Enters st c c') : CtxOK c' := by
  obtain ⟨vars, funcs, rfl, hv, hf⟩ := he
  refine ⟨fun e he => (hv e he).elim (h.vars e) fun hm => ?_, fun e he => (hf e he).elim (h.funcs e) ?_⟩
  · cases st with
    | varDef =>
      simp only [stmtP, PT.stmt, Bool.and_eq_true] at hs
      exact List.all_eq_true.mp hs.2 _ hm
    | varDefCall =>
      simp only [stmtP, PT.stmt, Bool.and_eq_true] at hs
      exact List.all_eq_true.mp hs.1.2 _ hm
    | _ => cases hm
  · rintro ⟨n, p, r, ps, b, rfl, e'⟩
    simp only [stmtP, PT.stmt, Bool.and_eq_true] at hs
    rw [e']
    exact ⟨hs.1.2, hs.2⟩

end Tsh.Parser
