/-
  The table of functions defined so far, with what is known about each body; the run-time invariant; what
  "running the lines of an expression" has to achieve.
-/
import TshVerif.Lemmas.Sem2Base
namespace Tsh.Sem2
open Tsh Tsh.Tr Tsh.Bash Tsh.Sem Tsh.Sem2.Src
open Tsh.Sem.Src (Val Env)

/-- one defined function: its source definition, the block structure of its shell body, its number, and a bound
    above the loop flags it (and everything it calls) may write -/
structure FEntry where
  fd : FunDef
  body : List Cmd
  j : Nat
  b : Nat

def srcTable (T : List FEntry) : List FunDef := T.map (·.fd)
def shTable (T : List FEntry) : List (String × List Cmd) := T.map fun e => (e.fd.name, e.body)
def tnames (T : List FEntry) : List String := T.map (·.fd.name)

/-- what function number `≤ j` with loop flags `< b` may write -/
def Touched (j b : Nat) (x : String) : Prop :=
  (∃ i a, i ≤ j ∧ x = fnPrefix i ++ a) ∨ (∃ i, x = rvName i) ∨ goodName2 x = true ∨ (∃ n, n < b ∧ x = flagName n) ∨ isSpecial x = true

def ValsRv : Nat → List Val → Store → Prop
  | _, [], _ => True
  | i, v :: vs, ρ => ρ (rvName i) = v.render ∧ ValsRv (i + 1) vs ρ

theorem ValsRv.congr : ∀ {i : Nat} {vs : List Val} {ρ ρ' : Store}, (∀ j, ρ' (rvName j) = ρ (rvName j)) → ValsRv i vs ρ → ValsRv i vs ρ'
  | _, [], _, _, _, _ => trivial
  | i, _ :: _, _, _, h, hv => ⟨by rw [h i]; exact hv.1, ValsRv.congr h hv.2⟩

/-- what source and shell agree on across a call: output and global variables -/
structure AgreeG (c : SCfg) (m : Cfg) : Prop where
  out : c.out = m.out
  glob : ∀ x v, c.genv x = some v → goodName2 x = true ∧ m.ρ x = v.render
  hp : HeapOK c m

theorem AgreeF.toG {ctx : Ctx} {c : SCfg} {m : Cfg} (h : AgreeF ctx c m) : AgreeG c m := ⟨h.out, h.glob, h.hp⟩

/-- the shell outcome for a source outcome (returned values are in the registers, not in the outcome) -/
def OutRel : SOut → Out → Prop
  | .normal, .normal => True
  | .brk, .brk => True
  | .cont, .cont => True
  | .ret _, .ret => True
  | .exit k, .exit k' => k = k'
  | _, _ => False

/-- the shell body of `e` does what its source body does, in every later state of the program (when the body ends
    the program - `exit` - only the printed lines matter) -/
def BodySim (e : FEntry) (T : List FEntry) : Prop :=
  ∀ (Tr : List FEntry) (c : SCfg) (m : Cfg) (vals : List Val) (fuel : Nat) (o : SOut) (c2 : SCfg),
    (e :: T) <:+ Tr → (tnames Tr).Nodup → c.funs = srcTable Tr → m.funs = shTable Tr → AgreeG c m →
    vals.length = e.fd.params.length →
    execSs fuel e.fd.body { c with lenv := bindParams (fun _ => none) e.fd.params vals, inFn := true } = some (o, c2) →
    ∃ m2 o', ExecCmds e.body { m with args := vals.map Val.render, saved := [] } o' m2 ∧ OutRel o o' ∧ c2.out = m2.out ∧
      ((∀ k, o ≠ .exit k) →
        AgreeG c2 m2 ∧ c2.funs = c.funs ∧ m2.funs = m.funs ∧
        (∀ vs, o = .ret vs → ValsRv 0 vs m2.ρ) ∧
        (∀ x, ¬ Touched e.j e.b x → m2.ρ x = m.ρ x) ∧
        (∀ p ∈ m2.saved, ∃ a, p.1 = fnPrefix e.j ++ a))

/-- latest definition first: each body does what its source does given the EARLIER ones; those have smaller numbers and flag
    bounds, so `Touched e.j e.b` covers everything a call of `e` writes -/
def TableOK : List FEntry → Prop
  | [] => True
  | e :: T => BodySim e T ∧ TableOK T ∧ (∀ e' ∈ T, e'.j < e.j ∧ e'.b ≤ e.b)

theorem TableOK.entry : ∀ {T : List FEntry} {e : FEntry}, TableOK T → e ∈ T → ∃ T', (e :: T') <:+ T ∧ BodySim e T'
  | e0 :: T, e, h, he => by
    simp only [List.mem_cons] at he
    rcases he with rfl | he
    · exact ⟨T, List.suffix_refl _, h.1⟩
    · obtain ⟨T', hs, hb⟩ := TableOK.entry h.2.1 he
      exact ⟨T', hs.trans (List.suffix_cons e0 T), hb⟩

theorem lookup_entry : ∀ (T : List FEntry) (e : FEntry), (tnames T).Nodup → e ∈ T →
    Src.lookupFun (srcTable T) e.fd.name = some e.fd ∧ lookupFun (shTable T) e.fd.name = some e.body
  | e0 :: T, e, hn, he => by
    simp only [tnames, List.map_cons, List.nodup_cons, List.mem_map, not_exists, not_and] at hn
    simp only [srcTable, shTable, List.map_cons, Src.lookupFun, lookupFun]
    simp only [List.mem_cons] at he
    rcases he with rfl | he
    · simp
    · have : e0.fd.name ≠ e.fd.name := fun h => hn.1 e he h.symm
      simp only [this, if_false]
      exact lookup_entry T e hn.2 he

theorem lookup_src_mem : ∀ (T : List FEntry) (name : String) (fd : FunDef), Src.lookupFun (srcTable T) name = some fd →
    ∃ e ∈ T, e.fd = fd ∧ fd.name = name
  | [], _, _, h => by simp [srcTable, Src.lookupFun] at h
  | e0 :: T, name, fd, h => by
    simp only [srcTable, List.map_cons, Src.lookupFun] at h
    split at h
    · rename_i hn
      simp only [Option.some.injEq] at h
      exact ⟨e0, by simp, h, by rw [← h]; exact hn⟩
    · obtain ⟨e, he, h1, h2⟩ := lookup_src_mem T name fd h
      exact ⟨e, by simp [he], h1, h2⟩

/-- calls into `T` do not disturb code of `ctx`: inside function `ctx.k` all of `T` have smaller numbers (other prefixes), and
    their loop flags lie below `B` -/
structure CtxOK (ctx : Ctx) (T : List FEntry) (B : Nat) : Prop where
  above : ctx.inFn = true → ∀ e ∈ T, e.j < ctx.k
  flags : ∀ e ∈ T, e.b ≤ B

/-- source and shell configuration in step: agreement, and the same functions defined on both sides, those of `T` among them -/
structure Inv (ctx : Ctx) (T : List FEntry) (c : SCfg) (m : Cfg) : Prop where
  agree : AgreeF ctx c m
  tables : ∃ Tr, T <:+ Tr ∧ (tnames Tr).Nodup ∧ c.funs = srcTable Tr ∧ m.funs = shTable Tr

section
variable {ctx : Ctx} {T : List FEntry} {c : SCfg} {m : Cfg} (h : Inv ctx T c m)
include h

theorem Inv.set_other (y w : String) (hy : ∀ x g, goodName2 x = true → ctx.mg x g ≠ y) (hd : y ≠ "_dvc") :
    Inv ctx T c { m with ρ := m.ρ.set y w } :=
  ⟨h.agree.set_other y w hy hd, h.tables⟩

theorem Inv.set_hn (j : Nat) (w : String) : Inv ctx T c { m with ρ := m.ρ.set (ctx.hn j) w } :=
  h.set_other _ _ (fun x g hg => ctx.mg_ne_hn x g j hg) (ctx.hn_ne_special j (by decide))

theorem Inv.set_tn (j : Nat) (w : String) : Inv ctx T c { m with ρ := m.ρ.set (ctx.tn j) w } :=
  h.set_other _ _ (fun x g hg => ctx.mg_ne_tn x g j hg) (ctx.tn_ne_special j (by decide))

theorem Inv.set_flag (j : Nat) (w : String) : Inv ctx T c { m with ρ := m.ρ.set (flagName j) w } :=
  h.set_other _ _ (fun x g hg => ctx.mg_ne_flag x g j hg) (fun e => special_ne_flag (x := "_dvc") (by decide) j e.symm)

theorem Inv.set_rv (j : Nat) (w : String) : Inv ctx T c { m with ρ := m.ρ.set (rvName j) w } :=
  h.set_other _ _ (fun x g hg => ctx.mg_ne_rv x g j hg) (fun e => special_ne_rv (x := "_dvc") (by decide) j e.symm)

theorem Inv.set_special {y : String} (hy : isSpecial y = true) (hd : y ≠ "_dvc") (w : String) : Inv ctx T c { m with ρ := m.ρ.set y w } :=
  h.set_other y w (fun x g hg => ctx.mg_ne_special x g hg hy) hd

end

/-- the parts of a configuration that only calls and definitions change are as they were -/
def Ctl (m m1 : Cfg) : Prop := m1.args = m.args ∧ m1.saved = m.saved ∧ m1.funs = m.funs

theorem Ctl.refl (m : Cfg) : Ctl m m := ⟨rfl, rfl, rfl⟩
theorem Ctl.trans {a b c : Cfg} (h1 : Ctl a b) (h2 : Ctl b c) : Ctl a c :=
  ⟨h2.1.trans h1.1, h2.2.1.trans h1.2.1, h2.2.2.trans h1.2.2⟩

/-- what the lines of an expression leave alone: helpers below `lo` (earlier operands), all temporaries (values parked by a
    simultaneous assignment), loop flags from `B` on (the loops around this code) -/
structure KeepE (ctx : Ctx) (B lo : Nat) (m m1 : Cfg) : Prop where
  helpers : ∀ j, j < lo → m1.ρ (ctx.hn j) = m.ρ (ctx.hn j)
  tmps : ∀ j, m1.ρ (ctx.tn j) = m.ρ (ctx.tn j)
  flags : ∀ n, B ≤ n → m1.ρ (flagName n) = m.ρ (flagName n)

theorem KeepE.refl (ctx : Ctx) (B lo : Nat) (m : Cfg) : KeepE ctx B lo m m := ⟨fun _ _ => rfl, fun _ => rfl, fun _ _ => rfl⟩
theorem KeepE.trans {ctx : Ctx} {B lo lo' : Nat} {a b c : Cfg} (h1 : KeepE ctx B lo a b) (h2 : KeepE ctx B lo' b c) (hl : lo ≤ lo') :
    KeepE ctx B lo a c :=
  ⟨fun j hj => by rw [h2.helpers j (by omega), h1.helpers j hj], fun j => by rw [h2.tmps j, h1.tmps j],
   fun n hn => by rw [h2.flags n hn, h1.flags n hn]⟩

section
variable {ctx : Ctx} {B lo : Nat} {m m1 : Cfg} (h : KeepE ctx B lo m m1)
include h

theorem KeepE.set (y w : String) (h1 : ∀ j, j < lo → ctx.hn j ≠ y) (h2 : ∀ j, ctx.tn j ≠ y) (h3 : ∀ n, B ≤ n → flagName n ≠ y) :
    KeepE ctx B lo m { m1 with ρ := m1.ρ.set y w } :=
  ⟨fun i hi => (m1.rho_set_other y _ w (h1 i hi)).trans (h.helpers i hi), fun i => (m1.rho_set_other y _ w (h2 i)).trans (h.tmps i),
   fun n hn => (m1.rho_set_other y _ w (h3 n hn)).trans (h.flags n hn)⟩

theorem KeepE.set_helper {j : Nat} (hj : lo ≤ j) (w : String) : KeepE ctx B lo m { m1 with ρ := m1.ρ.set (ctx.hn j) w } :=
  h.set _ w (fun i hi e => by have := ctx.hn_inj e; omega) (fun i e => ctx.hn_ne_tn j i e.symm) (fun n _ e => ctx.hn_ne_flag j n e.symm)

end

/-- the names code of context `ctx` may assign (loop flags only below `hi`) -/
def OwnT (ctx : Ctx) (hi : Nat) (x : String) : Prop :=
  (∃ k, x = ctx.hn k) ∨ (∃ k, x = ctx.tn k) ∨ (∃ v g, goodName2 v = true ∧ x = ctx.mg v g) ∨ (∃ i, x = rvName i) ∨ (∃ n, n < hi ∧ x = flagName n) ∨
    isSpecial x = true

/-- lines that only the head of a function definition has -/
def isDefLine : Line → Bool
  | .localAssign _ _ => true
  | .funcStart _ => true
  | _ => false

theorem _root_.Tsh.Sem.Assigns.shape {line : Line} {h : String} (ha : Assigns line h) : lineTargets line = [h] ∧ isCall line = false ∧ isDefLine line = false := by
  cases ha <;> exact ⟨rfl, rfl, rfl⟩

/-- the static condition on an emitted line (what `exec_frame` starts from): it assigns only
    names of `OwnT ctx hi`, calls only functions of `ds`, and is no line of a function head -/
def SLine (ctx : Ctx) (hi : Nat) (ds : List String) (l : Line) : Prop :=
  (∀ x ∈ lineTargets l, OwnT ctx hi x) ∧ (∀ name args, l = .callFn name args → name ∈ ds) ∧ isDefLine l = false

def LinesOK (ctx : Ctx) (hi : Nat) (ds : List String) (ls : List Line) : Prop := ∀ l ∈ ls, SLine ctx hi ds l

theorem LinesOK.nil (ctx : Ctx) (hi : Nat) (ds : List String) : LinesOK ctx hi ds [] := fun _ h => by simp at h
theorem LinesOK.cons {ctx : Ctx} {hi : Nat} {ds : List String} {l : Line} {ls : List Line} (h1 : SLine ctx hi ds l) (h2 : LinesOK ctx hi ds ls) :
    LinesOK ctx hi ds (l :: ls) := List.forall_mem_cons.2 ⟨h1, h2⟩
theorem LinesOK.one {ctx : Ctx} {hi : Nat} {ds : List String} {l : Line} (h : SLine ctx hi ds l) : LinesOK ctx hi ds [l] :=
  LinesOK.cons h (LinesOK.nil _ _ _)
theorem LinesOK.append {ctx : Ctx} {hi : Nat} {ds : List String} {a b : List Line} (h1 : LinesOK ctx hi ds a) (h2 : LinesOK ctx hi ds b) :
    LinesOK ctx hi ds (a ++ b) := fun x hx => (List.mem_append.mp hx).elim (h1 x) (h2 x)
theorem LinesOK.reverse {ctx : Ctx} {hi : Nat} {ds : List String} {a : List Line} (h : LinesOK ctx hi ds a) : LinesOK ctx hi ds a.reverse :=
  fun x hx => h x (List.mem_reverse.mp hx)
theorem LinesOK.mono {ctx : Ctx} {hi hi' : Nat} {ds : List String} {a : List Line} (h : LinesOK ctx hi ds a) (hh : hi ≤ hi') : LinesOK ctx hi' ds a := by
  intro l hl
  obtain ⟨h1, h2⟩ := h l hl
  exact ⟨fun x hx => (h1 x hx).imp_right (Or.imp_right (Or.imp_right (Or.imp_right (Or.imp_left
    fun ⟨n, hn, e⟩ => ⟨n, Nat.lt_of_lt_of_le hn hh, e⟩)))), h2⟩

theorem sline_one (ctx : Ctx) (hi : Nat) (ds : List String) (l : Line) {y : String} (hy : OwnT ctx hi y)
    (h1 : lineTargets l = [y]) (h2 : isCall l = false) (h3 : isDefLine l = false := by rfl) : SLine ctx hi ds l :=
  ⟨fun x hx => by rw [h1, List.mem_singleton] at hx; exact hx ▸ hy, fun name args e => (by subst e; cases h2), h3⟩

theorem sline_helper (ctx : Ctx) (hi : Nat) (ds : List String) (l : Line) (k : Nat) (h1 : lineTargets l = [ctx.hn k]) (h2 : isCall l = false)
    (h3 : isDefLine l = false := by rfl) : SLine ctx hi ds l :=
  sline_one ctx hi ds l (Or.inl ⟨k, rfl⟩) h1 h2 h3

theorem sline_plain (ctx : Ctx) (hi : Nat) (ds : List String) (l : Line) (h1 : lineTargets l = []) (h2 : isCall l = false)
    (h3 : isDefLine l = false := by rfl) : SLine ctx hi ds l :=
  ⟨fun x hx => by rw [h1] at hx; simp at hx, fun name args e => by subst e; simp [isCall] at h2, h3⟩

theorem sline_special1 (ctx : Ctx) (hi : Nat) (ds : List String) (l : Line) {y : String} (hy : isSpecial y = true) (h1 : lineTargets l = [y])
    (h2 : isCall l = false) (h3 : isDefLine l = false := by rfl) : SLine ctx hi ds l :=
  sline_one ctx hi ds l (Or.inr (Or.inr (Or.inr (Or.inr (Or.inr hy))))) h1 h2 h3

theorem sline_special3 (ctx : Ctx) (hi : Nat) (ds : List String) (v a b : String) : SLine ctx hi ds (.ssh v a b) :=
  ⟨fun x hx => by
      simp only [lineTargets, List.mem_cons, List.mem_nil_iff, or_false] at hx
      refine Or.inr (Or.inr (Or.inr (Or.inr (Or.inr ?_))))
      rcases hx with rfl | rfl | rfl <;> decide,
   fun name args e => (by cases e), rfl⟩

/-- the result of running the lines `new` (latest first) of an expression; `wv`: are the operand texts claimed at the end? -/
def RunsW (wv : Bool) (ctx : Ctx) (T : List FEntry) (B : Nat) (new : List Line) (lo n : Nat) (ts : List String) (m : Cfg) : R (List Opd) → Prop
  | .ok os c1 => ∃ m1, ExecCmds (new.reverse.map Cmd.simple) m .normal m1 ∧ Inv ctx T c1 m1 ∧ Ctl m m1 ∧
      KeepE ctx B lo m m1 ∧ (wv = true → HoldsAllF ctx ts os (lo + n) m1.ρ)
  | .exit k c1 => ∃ m1, ExecCmds (new.reverse.map Cmd.simple) m (.exit k) m1 ∧ c1.out = m1.out

abbrev Runs := RunsW true

structure ESimW (wv : Bool) (ctx : Ctx) (T : List FEntry) (B : Nat) (src : Nat → SCfg → Option (R (List Opd))) (new : List Line) (lo n : Nat)
    (ts : List String) : Prop where
  lines : LinesOK ctx 0 (tnames T) new
  run : ∀ fuel c res, src fuel c = some res → ∀ m, Inv ctx T c m → RunsW wv ctx T B new lo n ts m res

abbrev ESim := ESimW true

theorem ESimW.weaken {wv : Bool} {ctx : Ctx} {T : List FEntry} {B : Nat} {src : Nat → SCfg → Option (R (List Opd))} {new : List Line}
    {lo n : Nat} {ts : List String} (h : ESimW true ctx T B src new lo n ts) : ESimW wv ctx T B src new lo n ts := by
  refine ⟨h.lines, ?_⟩
  intro fuel c res hs m hi
  have := h.run fuel c res hs m hi
  cases res with
  | ok os c1 =>
    obtain ⟨m1, a, b, c', d, e⟩ := this
    exact ⟨m1, a, b, c', d, fun _ => e rfl⟩
  | exit k c1 => exact this

end Tsh.Sem2
