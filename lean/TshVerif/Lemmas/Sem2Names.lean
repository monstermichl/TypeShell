/-
  Names: function-local data is `f<k>_<name>`; these, the helpers, temporaries, loop flags, return registers and
  the program's own identifiers are pairwise different (instances of `Lemmas/Names`: stem, first and last character).
  The same for the names of a context (`Ctx.mg`, `Ctx.hn`, `Ctx.tn`), which are also valid shell names.
-/
import TshVerif.Lemmas.ConvOps
import TshVerif.Lemmas.SemNames
namespace Tsh.Sem2
open Tsh Tsh.Bash Tsh.Sem Tsh.Names

theorem fnPrefix_toList (k : Nat) (a : String) : (fnPrefix k ++ a).toList = 'f' :: ((Nat.repr k).toList ++ '_' :: a.toList) := by
  simp [fnPrefix, String.toList_append]

theorem fnPrefix_inj {i k : Nat} {a b : String} (h : fnPrefix i ++ a = fnPrefix k ++ b) : i = k ∧ a = b :=
  mangled_inj "f" h

theorem mangledLike_prefix (k : Nat) (a : String) : mangledLike (fnPrefix k ++ a) = true := by
  unfold mangledLike
  rw [fnPrefix_toList]
  simp only []
  rw [List.takeWhile_append_of_pos (repr_digits k)]
  simp

theorem good2_ne_prefixed (x : String) (k : Nat) (a : String) (h : goodName2 x = true) : x ≠ fnPrefix k ++ a := by
  intro e; subst e
  simp [goodName2, mangledLike_prefix] at h

theorem good2_good {x : String} (h : goodName2 x = true) : goodName x = true := by
  simp only [goodName2, Bool.and_eq_true] at h; exact h.1

theorem rvName_head (k : Nat) : (rvName k).toList.head? = some '_' := head_append (p := "_rv") rfl _

theorem prefixed_ne_owned (k : Nat) (a : String) {y : String} (hy : y.toList.head? = some '_') : fnPrefix k ++ a ≠ y :=
  ne_of_head (by rw [fnPrefix_toList]; nofun) hy

theorem prefixed_ne_flag (k : Nat) (a : String) (j : Nat) : fnPrefix k ++ a ≠ flagName j := prefixed_ne_owned k a (flagName_head j)
theorem prefixed_ne_rv (k : Nat) (a : String) (j : Nat) : fnPrefix k ++ a ≠ rvName j := prefixed_ne_owned k a (rvName_head j)

theorem rvName_inj {a b : Nat} (h : rvName a = rvName b) : a = b := numbered_inj "_rv" h
theorem rv_ne_helper (i k : Nat) : rvName i ≠ helperName k := stems_ne (p := "_rv") (q := "_h") (by decide) (by decide) _ _
theorem rv_ne_tmp (i k : Nat) : rvName i ≠ tmpName k := stems_ne (p := "_rv") (q := "_ma") (by decide) (by decide) _ _
theorem rv_ne_flag (i k : Nat) : rvName i ≠ flagName k := stems_ne (p := "_rv") (q := "_fv") (by decide) (by decide) _ _
theorem good_ne_rv (x : String) (k : Nat) (h : goodName x = true) : x ≠ rvName k := good_ne_owned h (rvName_head k)
theorem rvName_valid (k : Nat) : validName (rvName k).toList = true := numbered_valid "_rv" k (by decide)

theorem sliceName_inj {a b : Nat} (h : Sem.Src.sliceName a = Sem.Src.sliceName b) : a = b := numbered_inj "_dv" h

def allName (cs : List Char) : Bool := cs.all nameChar

theorem validName_allName {cs : List Char} (h : validName cs = true) : allName cs = true := by
  cases cs with
  | nil => rfl
  | cons c cs => simp only [validName, Bool.and_eq_true] at h; exact h.2

theorem prefixed_valid (k : Nat) (a : String) (h : allName a.toList = true) : validName (fnPrefix k ++ a).toList = true := by
  rw [fnPrefix_toList]
  simp only [validName, Bool.and_eq_true, List.all_eq_true, Bool.not_eq_true']
  refine ⟨by decide, ?_⟩
  intro c hc
  simp only [List.mem_cons, List.mem_append] at hc
  rcases hc with rfl | hc | rfl | hc
  · decide
  · exact digit_nameChar c (repr_digits k c hc)
  · decide
  · simp only [allName, List.all_eq_true] at h
    exact h c hc

/-- `_dvc` (slice counter), `_ret`, `_ls`, `_ll` (substring routine), `_c` (loop variable of `_sah`) -/
def isSpecial (x : String) : Bool := x == "_dvc" || x == "_ret" || x == "_ls" || x == "_ll" || x == "_c"

theorem special_mem {x : String} (h : isSpecial x = true) : x ∈ ["_dvc", "_ret", "_ls", "_ll", "_c"] := by
  simpa [isSpecial, or_assoc] using h

theorem special_head {x : String} (h : isSpecial x = true) : x.toList.head? = some '_' :=
  (by decide : ∀ y ∈ ["_dvc", "_ret", "_ls", "_ll", "_c"], y.toList.head? = some '_') x (special_mem h)

theorem special_ne_prefixed {x : String} (h : isSpecial x = true) (k : Nat) (a : String) : x ≠ fnPrefix k ++ a :=
  (prefixed_ne_owned k a (special_head h)).symm

/-- a special name ends in a letter: it is no numbered name -/
theorem special_ne_numbered {x : String} (h : isSpecial x = true) (p : String) (j : Nat) : x ≠ p ++ Nat.repr j :=
  last_ne ((by decide : ∀ y ∈ ["_dvc", "_ret", "_ls", "_ll", "_c"], ∀ d, y.toList.getLast? = some d → d.isDigit = false) x
    (special_mem h)) p j

theorem special_ne_helper {x : String} (h : isSpecial x = true) (j : Nat) : x ≠ helperName j := special_ne_numbered h "_h" j
theorem special_ne_tmp {x : String} (h : isSpecial x = true) (j : Nat) : x ≠ tmpName j := special_ne_numbered h "_ma" j
theorem special_ne_flag {x : String} (h : isSpecial x = true) (j : Nat) : x ≠ flagName j := special_ne_numbered h "_fv" j
theorem special_ne_rv {x : String} (h : isSpecial x = true) (j : Nat) : x ≠ rvName j := special_ne_numbered h "_rv" j

theorem good_ne_special {x : String} (hg : goodName x = true) (h : isSpecial x = true) : False :=
  good_ne_owned hg (special_head h) rfl

theorem special_valid {x : String} (h : isSpecial x = true) : validName x.toList = true :=
  (by decide : ∀ y ∈ ["_dvc", "_ret", "_ls", "_ll", "_c"], validName y.toList = true) x (special_mem h)

theorem Ctx.mg_inj (ctx : Ctx) {a b : String} {g : Bool} (h : ctx.mg a g = ctx.mg b g) : a = b := by
  unfold Ctx.mg at h
  split at h
  · exact (fnPrefix_inj h).2
  · exact h

theorem Ctx.mg_ne_owned (ctx : Ctx) {y z : String} (g : Bool) (hz : z.toList.head? = some '_') (h : y ≠ z) : ctx.mg y g ≠ z := by
  unfold Ctx.mg
  split
  · exact prefixed_ne_owned _ _ hz
  · exact h

theorem Ctx.mg_keeps_valid (ctx : Ctx) {y : String} (g : Bool) (h1 : allName y.toList = true) (h2 : validName y.toList = true) :
    validName (ctx.mg y g).toList = true := by
  unfold Ctx.mg
  split
  · exact prefixed_valid _ _ h1
  · exact h2

theorem Ctx.hn_inj (ctx : Ctx) {a b : Nat} (h : ctx.hn a = ctx.hn b) : a = b := helperName_inj (ctx.mg_inj h)
theorem Ctx.tn_inj (ctx : Ctx) {a b : Nat} (h : ctx.tn a = ctx.tn b) : a = b := tmpName_inj (ctx.mg_inj h)

theorem Ctx.hn_valid (ctx : Ctx) (j : Nat) : validName (ctx.hn j).toList = true :=
  ctx.mg_keeps_valid false (validName_allName (helperName_valid j)) (helperName_valid j)
theorem Ctx.tn_valid (ctx : Ctx) (j : Nat) : validName (ctx.tn j).toList = true :=
  ctx.mg_keeps_valid false (validName_allName (tmpName_valid j)) (tmpName_valid j)

theorem Ctx.mg_valid (ctx : Ctx) (x : String) (g : Bool) (h : goodName2 x = true) : validName (ctx.mg x g).toList = true := by
  have := good2_good h
  simp only [goodName, Bool.and_eq_true] at this
  exact ctx.mg_keeps_valid g (validName_allName this.1) this.1

theorem Ctx.mg_ne_mg (ctx : Ctx) {x y : String} (g : Bool) (hx : goodName2 x = true) (hy : x ≠ y) : ctx.mg x g ≠ ctx.mg y false := by
  intro e
  unfold Ctx.mg at e
  cases hin : ctx.inFn <;> cases g <;> simp only [hin, Bool.not_false, Bool.not_true, Bool.and_self, Bool.and_false, Bool.false_and,
    Bool.false_eq_true, if_true, if_false] at e
  · exact hy e
  · exact hy e
  · exact hy (fnPrefix_inj e).2
  · exact good2_ne_prefixed x _ _ hx e

theorem Ctx.mg_ne_hn (ctx : Ctx) (x : String) (g : Bool) (j : Nat) (h : goodName2 x = true) : ctx.mg x g ≠ ctx.hn j :=
  ctx.mg_ne_mg g h (good_ne_helper x j (good2_good h))

theorem Ctx.mg_ne_tn (ctx : Ctx) (x : String) (g : Bool) (j : Nat) (h : goodName2 x = true) : ctx.mg x g ≠ ctx.tn j :=
  ctx.mg_ne_mg g h (good_ne_tmp x j (good2_good h))

theorem Ctx.mg_ne_flag (ctx : Ctx) (x : String) (g : Bool) (j : Nat) (h : goodName2 x = true) : ctx.mg x g ≠ flagName j :=
  ctx.mg_ne_owned g (flagName_head j) (good_ne_flag x j (good2_good h))

theorem Ctx.mg_ne_rv (ctx : Ctx) (x : String) (g : Bool) (j : Nat) (h : goodName2 x = true) : ctx.mg x g ≠ rvName j :=
  ctx.mg_ne_owned g (rvName_head j) (good_ne_rv x j (good2_good h))

theorem Ctx.hn_ne_tn (ctx : Ctx) (i j : Nat) : ctx.hn i ≠ ctx.tn j := fun e => tmp_ne_helper j i (ctx.mg_inj e).symm

theorem Ctx.hn_ne_flag (ctx : Ctx) (i j : Nat) : ctx.hn i ≠ flagName j :=
  ctx.mg_ne_owned false (flagName_head j) (flag_ne_helper j i).symm

theorem Ctx.tn_ne_flag (ctx : Ctx) (i j : Nat) : ctx.tn i ≠ flagName j :=
  ctx.mg_ne_owned false (flagName_head j) (flag_ne_tmp j i).symm

theorem Ctx.hn_ne_rv (ctx : Ctx) (i j : Nat) : ctx.hn i ≠ rvName j :=
  ctx.mg_ne_owned false (rvName_head j) (rv_ne_helper j i).symm

theorem Ctx.hn_ne_special (ctx : Ctx) (i : Nat) {y : String} (h : isSpecial y = true) : ctx.hn i ≠ y :=
  ctx.mg_ne_owned false (special_head h) (special_ne_helper h i).symm

theorem Ctx.tn_ne_special (ctx : Ctx) (i : Nat) {y : String} (h : isSpecial y = true) : ctx.tn i ≠ y :=
  ctx.mg_ne_owned false (special_head h) (special_ne_tmp h i).symm

theorem Ctx.mg_ne_special (ctx : Ctx) (x : String) (g : Bool) {y : String} (hx : goodName2 x = true) (h : isSpecial y = true) : ctx.mg x g ≠ y :=
  ctx.mg_ne_owned g (special_head h) (good_ne_owned (good2_good hx) (special_head h))

end Tsh.Sem2
