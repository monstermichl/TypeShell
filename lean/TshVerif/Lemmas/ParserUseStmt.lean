/-
  Every variable used is a visible one, in statements: the visibility pass as an instance of the statement walk; the environment
  is the list `Γ` of the visible variables.  In a loop the list depends on the parsed body (`PT.forVars`), which is why the loop is
  read off its run record after the body is known (`use_for`).
-/
import TshVerif.Lemmas.ParserUseExpr
import TshVerif.Lemmas.ParserStmtRuns
namespace Tsh.Parser
open Tsh Tsh.Tr Tsh.LexTables

def useSP (Γ : List Var) (st : Stmt) : Prop := PT.useS Γ st = true
def useSsP (Γ : List Var) (ss : List Stmt) : Prop := PT.useSs Γ ss = true

theorem useSsP.out {Γ : List Var} {ss : List Stmt} (h : useSsP Γ ss) : PT.useSs Γ ss = true := h
theorem useSP.out {Γ : List Var} {s : Stmt} (h : useSP Γ s) : PT.useS Γ s = true := h

theorem VarsIn.mono {Γ Γ' : List Var} {ctx : Ctx} (h : VarsIn Γ ctx) (hs : ∀ x ∈ Γ, x ∈ Γ') : VarsIn Γ' ctx :=
  fun e he => hs _ (h e he)

theorem declared_sub (Γ : List Var) (st : Stmt) : ∀ x ∈ Γ, x ∈ PT.declared Γ st := by
  intro x hx
  cases st <;> simp [PT.declared, hx]

theorem declaredAll_snoc (Γ : List Var) (acc : List Stmt) (st : Stmt) :
    PT.declaredAll Γ (acc ++ [st]) = PT.declared (PT.declaredAll Γ acc) st := by
  simp [PT.declaredAll, List.foldl_append]

theorem useSs_append_same : ∀ {Γ : List Var} {a b : List Stmt}, useSsP Γ a → useSsP (PT.declaredAll Γ a) b → useSsP Γ (a ++ b) := by
  intro Γ a
  induction a generalizing Γ with
  | nil => intro b _ hb; exact hb
  | cons x xs ih =>
    intro b ha hb
    simp only [useSsP, PT.useSs, Bool.and_eq_true] at ha
    simp only [useSsP, List.cons_append, PT.useSs, Bool.and_eq_true]
    exact ⟨ha.1, ih ha.2 hb⟩

theorem useSs_snoc {acc : List Stmt} {st : Stmt} {Γ : List Var} (ha : useSsP Γ acc) (hs : useSP (PT.declaredAll Γ acc) st) :
    useSsP Γ (acc ++ [st]) :=
  useSs_append_same ha (by simp [useSsP, PT.useSs, show PT.useS _ st = true from hs])

theorem addVars_varsIn {pfx : String} {g : Bool} {vs Γ : List Var} {c c' : Ctx} (h : VarsIn Γ c)
    (he : c.addVars pfx g vs = some c') : VarsIn (vs ++ Γ) c' := by
  obtain ⟨vars, rfl, hv⟩ := addVars_ctx he
  exact fun e hm => (hv e hm).elim (fun h1 => List.mem_append_right _ (h e h1)) (List.mem_append_left _)

theorem VarsIn.enters {Γ : List Var} {st : Stmt} {c c' : Ctx} (h : VarsIn Γ c) (he : Enters st c c') :
    VarsIn (PT.declared Γ st) c' := by
  obtain ⟨vars, _, rfl, hv, -⟩ := he
  refine fun x hx => (hv x hx).elim (fun hx => declared_sub _ _ _ (h x hx)) fun hm => ?_
  cases st <;> first | exact List.mem_append_left _ hm | cases hm

theorem useEl_snoc {Γ : List Var} {a : List (Expr × List Stmt)} {c : Expr} {b : List Stmt} (ha : PT.useEl Γ a = true) (hc : useP Γ c)
    (hb : useSsP Γ b) : PT.useEl Γ (a ++ [(c, b)]) = true := by
  induction a with
  | nil => simp [PT.useEl, hc.out, hb.out]
  | cons x xs ih =>
    obtain ⟨e, body⟩ := x
    simp only [PT.useEl, Bool.and_eq_true] at ha
    simp only [List.cons_append, PT.useEl, Bool.and_eq_true]
    exact ⟨ha.1, ih ha.2⟩

@[reducible] def usePass : Pass (List Var) where
  In := VarsIn
  okE := useP
  okEs := usesP
  okArgs Γ _ := usesP Γ
  okC := useP
  okTag := useP
  okS := useSP
  okSs := useSsP
  okEl Γ l := PT.useEl Γ l = true
  decl := PT.declared
  push Γ _ := Γ
  pushOK _ := True

theorem use_targets {Γ : List Var} {ctx : Ctx} {vars : List Var} {ts : List ValueType} (hc : VarsIn Γ ctx) (ht : Targets ctx vars ts) :
    vars.all Γ.contains = true :=
  List.all_eq_true.mpr fun v hv => let ⟨_, _, _, h⟩ := ht.found v hv; by simpa using findVar_in hc h

theorem useSRule : StmtRule usePass where
  expr := useRule
  push h _ := h
  pushBranch _ := trivial
  register h _ he := h.enters he
  nilS := rfl
  snocS _ := useSs_snoc
  nilEl := rfl
  snocEl _ := useEl_snoc
  ifS _ hc hb he hl := band_true (band_true (band_true hc hb) he) hl
  cond h _ := h
  condLit := rfl
  tag h _ := h
  tagLit := rfl
  caseCond ht he _ := band_true ht he
  assign hc ht h _ _ := band_true (use_targets hc ht) h
  assignCall hc ht h _ := band_true (use_targets hc ht) h
  compound hc hf he _ _ := by
    simp [useSP, PT.useS, PT.useEs, PT.useE, he.out, findVar_in hc hf]
  sliceAssign hc hf _ hi _ hx _ := band_true (band_true (by simpa [useP, PT.useE] using (useRule _).var hc hf) hi) hx
  incDec _ hc hf _ := by
    simp [useSP, incDecStmt, PT.useS, PT.useEs, PT.useE, findVar_in hc hf]
  ret _ _ h := h
  brk _ _ := rfl
  cont _ _ := rfl
  print h _ := h
  write hp hd _ _ ha := band_true (band_true hp hd) (ha.elim (fun e => e ▸ rfl) fun h => h.1)
  panicS h _ := h
  exprS h _ := h

variable {fuel : Nat}

theorem use_func (ih : BlockIH usePass fuel) (Γ : List Var) (ctx : Ctx) (hc : VarsIn Γ ctx) :
    Post (evalFunctionDefinition (fuel + 1) ctx) (useSP Γ) :=
  (evalFunctionDefinition_run (anyWalk fuel) ctx).mono fun _ h => by
    cases h with
    | mk _ _ _ _ h2 hbody _ =>
    exact (hbody.elim (ih.block _ _ _ _ (addVars_varsIn (fun e he' => by
      simp only [List.mem_filter] at he' ⊢
      exact ⟨hc e he'.1, he'.2⟩) h2) trivial).ok).1

theorem rangeIdx_some {init : Option Stmt} {cond : Expr} {idx : Var} (h : PT.rangeIdx init cond = some idx) :
    init = some (.assign [idx] [.intLit 0]) := by
  unfold PT.rangeIdx at h
  split at h
  · split at h
    · simp only [Option.some.injEq] at h; subst h; rfl
    · simp at h
  · simp at h

theorem forVars_sup (Γ : List Var) (init : Option Stmt) (cond : Expr) (body : List Stmt) :
    ∀ x ∈ PT.declaredO Γ init, x ∈ PT.forVars Γ init cond body := by
  intro x hx
  unfold PT.forVars
  split
  · rename_i idx h
    rw [rangeIdx_some h] at hx
    simp only [PT.declaredO, PT.declared] at hx
    exact List.mem_append_right _ hx
  · exact hx

theorem forVars_range (Γ : List Var) (idx : Var) (op : String) (it : Expr) (body : List Stmt) :
    PT.forVars Γ (some (.assign [idx] [.intLit 0])) (.compare op (.varEval idx) (.len it)) body =
      (match PT.rangeElem idx body with | some v => [v, idx] | none => [idx]) ++ Γ := by
  simp only [PT.forVars, PT.rangeIdx, beq_self_eq_true, ite_true]
  cases PT.rangeElem idx body <;> rfl

theorem use_for (ih : BlockIH usePass fuel) (Γ : List Var) (ctx : Ctx) (hc : VarsIn Γ ctx) :
    Post (evalFor (fuel + 1) ctx) (useSP Γ) :=
  (evalFor_run (anyWalk fuel) ctx).mono fun st h => by
    have hblock : ∀ {Γ c b}, VarsIn Γ c → Ran (evalBlock fuel (fun _ _ => true) c .for_) b → useSsP Γ b := fun hc h =>
      (h.elim (ih.block _ _ _ _ hc trivial).ok).1
    cases h with
    | @range _ idx iterable el ctx1 _ pre body _ hit hel h1 hpre hbody =>
      have hfv := forVars_range Γ idx "<" iterable (pre ++ body)
      generalize hΓ1 : PT.forVars Γ (some (.assign [idx] [.intLit 0])) (.compare "<" (.varEval idx) (.len iterable)) (pre ++ body) = Γ1 at hfv
      have hsub : ∀ x ∈ Γ, x ∈ Γ1 := by
        intro x hx; rw [hfv]; exact List.mem_append_right _ hx
      have hidx1 : idx ∈ Γ1 := by
        rw [hfv]; split <;> simp
      have hit1 := hit.elim ((useIH_all Γ1 fuel).expression ctx (hc.mono hsub))
      have hel1 : PT.useE Γ1 el = true := by
        rcases hel with ⟨rfl, _⟩ | ⟨rfl, _⟩ <;> simp [PT.useE, hit1.out, hidx1]
      have hc1 : VarsIn (idx :: Γ) ctx1 := addVars_varsIn hc h1
      have hbody1 : PT.useSs Γ1 (pre ++ body) = true := by
        rcases hpre with ⟨rfl, rfl⟩ | ⟨v, -, h2, rfl⟩
        · exact hblock (hc1.mono (List.forall_mem_cons.mpr ⟨hidx1, hsub⟩)) hbody
        · have hv1 : v ∈ Γ1 := by
            rw [hfv]
            rcases hel with ⟨rfl, _⟩ | ⟨rfl, _⟩ <;> simp [PT.rangeElem]
          have hc2 : VarsIn (v :: idx :: Γ) _ := addVars_varsIn hc1 h2
          have := hblock (hc2.mono (List.forall_mem_cons.mpr ⟨hv1, List.forall_mem_cons.mpr ⟨hidx1, hsub⟩⟩)) hbody
          simp [PT.useSs, PT.useS, PT.useEs, PT.declared, hv1, hel1, this.out]
      simp only [useSP, PT.useS, hΓ1, Bool.and_eq_true, Bool.or_eq_true]
      refine ⟨⟨⟨Or.inl (by simp [PT.rangeIdx]), ?_⟩, ?_⟩, hbody1⟩
      · simp [PT.useE, hidx1, hit1.out]
      · simp [PT.useO, incDecStmt, PT.useS, PT.useEs, PT.useE, hidx1]
    | @classic _ ctx1 init incr cond body hh _ hbody =>
      have ⟨hinit, hc1⟩ : PT.useO Γ init = true ∧ VarsIn (PT.declaredO Γ init) ctx1 := by
        rcases hh.init with ⟨rfl, rfl⟩ | ⟨st, rfl, hst, -, hr⟩
        · exact ⟨rfl, hc⟩
        · exact ⟨hst.elim (ih.statement Γ ctx hc).ok, hc.enters (registerDefs_enters hr)⟩
      have hΓ1 := hc1.mono (forVars_sup Γ init cond body)
      have hcond : PT.useE (PT.forVars Γ init cond body) cond = true := by
        rcases hh.cond with rfl | h
        · rfl
        · exact h.elim ((useIH_all _ fuel).expression ctx1 hΓ1)
      have hincr : PT.useO (PT.forVars Γ init cond body) incr = true := by
        cases incr with
        | none => rfl
        | some st => exact (hh.incr st rfl).1.elim (ih.statement _ ctx1 hΓ1).ok
      have hb := hblock hΓ1 hbody
      simp [useSP, PT.useS, hinit, hcond, hincr, hb.out]

theorem useWalk : ∀ fuel, BlockIH usePass fuel :=
  stmtWalk useSRule (w_def useSRule (fun h => h) (fun h => h) rfl) (fun _ => use_func) fun _ => use_for

structure UseSIH (fuel : Nat) : Prop where
  blockContent : ∀ Γ terms cb ctx scope, VarsIn Γ ctx → PostOk (evalBlockContent fuel terms cb ctx scope) (useSsP Γ)
  blockLoop : ∀ Γ terms cb ctx acc, VarsIn (PT.declaredAll Γ acc) ctx → useSsP Γ acc → PostOk (evalBlockLoop fuel terms cb ctx acc) (useSsP Γ)
  block : ∀ Γ cb ctx scope, VarsIn Γ ctx → PostOk (evalBlock fuel cb ctx scope) (useSsP Γ)
  functionDefinition : ∀ Γ ctx, VarsIn Γ ctx → PostOk (evalFunctionDefinition fuel ctx) (useSP Γ)
  if_ : ∀ Γ ctx, VarsIn Γ ctx → PostOk (evalIf fuel ctx) (useSP Γ)
  ifRest : ∀ Γ ctx c body elifs els, VarsIn Γ ctx → useP Γ c → useSsP Γ body → PT.useEl Γ elifs = true → useSsP Γ els →
    PostOk (evalIfRest fuel ctx c body elifs els) (useSP Γ)
  switch : ∀ Γ ctx, VarsIn Γ ctx → PostOk (evalSwitch fuel ctx) (useSP Γ)
  cases : ∀ Γ ctx tag first elifs dflt, VarsIn Γ ctx → useP Γ tag → (∀ c b, first = some (c, b) → useP Γ c ∧ useSsP Γ b) →
    PT.useEl Γ elifs = true → (∀ d, dflt = some d → useSsP Γ d) → PostOk (evalCases fuel ctx tag first elifs dflt) (useSP Γ)
  for_ : ∀ Γ ctx, VarsIn Γ ctx → PostOk (evalFor fuel ctx) (useSP Γ)
  statement : ∀ Γ ctx, VarsIn Γ ctx → PostOk (evalStatement fuel ctx) (useSP Γ)

theorem useSIH_all (fuel : Nat) : UseSIH fuel where
  blockContent Γ terms cb ctx scope hc := PostOk.mono ((useWalk fuel).blockContent Γ terms cb ctx scope hc trivial).ok fun _ h => h.1
  blockLoop Γ terms cb ctx acc hc ha := PostOk.mono ((useWalk fuel).blockLoop Γ terms cb ctx acc hc ha).ok fun _ h => h.1
  block Γ cb ctx scope hc := PostOk.mono ((useWalk fuel).block Γ cb ctx scope hc trivial).ok fun _ h => h.1
  functionDefinition Γ ctx hc := ((useWalk fuel).functionDefinition Γ ctx hc).ok
  if_ Γ ctx hc := ((useWalk fuel).if_ Γ ctx hc).ok
  ifRest Γ ctx c body elifs els hc h1 h2 h3 h4 := ((useWalk fuel).ifRest Γ ctx c body elifs els hc h1 h2 h3 h4).ok
  switch Γ ctx hc := ((useWalk fuel).switch Γ ctx hc).ok
  cases Γ ctx tag first elifs dflt hc h1 h2 h3 h4 := ((useWalk fuel).cases Γ ctx tag first elifs dflt hc h1 h2 h3 h4).ok
  for_ Γ ctx hc := ((useWalk fuel).for_ Γ ctx hc).ok
  statement Γ ctx hc := ((useWalk fuel).statement Γ ctx hc).ok

end Tsh.Parser
