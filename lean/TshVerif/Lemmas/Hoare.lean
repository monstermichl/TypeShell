/-
  Total-correctness triples for the converter monad and the TYPED walk: if every converter operation, used on
  operands the typing discipline allows, runs and keeps an invariant (indexed by an abstract snapshot `κ` of the
  construct stacks for the structural operations), then the walk over every typed and well-placed statement
  runs -- no error, no panic -- and gives the invariant back.  Generic over the converter.  For a converter that does
  not rely on placement (`LaxOps`) the same walk needs no placement hypothesis (`Guard`).
-/
import TshVerif.Model.Typed
import TshVerif.Lemmas.Walk
namespace Tsh.Tr
open Tsh

def Triple {σ α : Type} (pre : σ → Prop) (m : EM σ α) (post : α → σ → Prop) : Prop :=
  ∀ s, pre s → ∃ a s', m s = .ok (a, s') ∧ post a s'

theorem Triple.pure {σ α : Type} {pre : σ → Prop} (a : α) : Triple pre (Pure.pure a : EM σ α) (fun b s => b = a ∧ pre s) :=
  fun s h => ⟨a, s, rfl, rfl, h⟩

theorem Triple.bind {σ α β : Type} {p : σ → Prop} {q : α → σ → Prop} {r : β → σ → Prop} {x : EM σ α} {f : α → EM σ β}
    (hx : Triple p x q) (hf : ∀ a, Triple (q a) (f a) r) : Triple p (x >>= f) r := by
  intro s hs
  obtain ⟨a, s1, h1, hq⟩ := hx s hs
  obtain ⟨b, s2, h2, hr⟩ := hf a s1 hq
  exact ⟨b, s2, by rw [EM.bind_run h1, h2], hr⟩

theorem Triple.weaken {σ α : Type} {p p' : σ → Prop} {q q' : α → σ → Prop} {m : EM σ α}
    (h : Triple p m q) (hp : ∀ s, p' s → p s) (hq : ∀ a s, q a s → q' a s) : Triple p' m q' := by
  intro s hs
  obtain ⟨a, s', h1, h2⟩ := h s (hp s hs)
  exact ⟨a, s', h1, hq a s' h2⟩

theorem Triple.modify {σ : Type} {p q : σ → Prop} {f : σ → σ} (h : ∀ s, p s → q (f s)) : Triple p (Tr.modify f) (fun _ => q) :=
  fun s hs => ⟨(), f s, rfl, h s hs⟩

def Keeps {σ α : Type} (I : σ → Prop) (m : EM σ α) : Prop := Triple I m (fun _ s => I s)
def KeepsQ {σ α : Type} (I : σ → Prop) (m : EM σ α) (Q : α → Prop) : Prop := Triple I m (fun a s => I s ∧ Q a)

theorem KeepsQ.keeps {σ α : Type} {I : σ → Prop} {m : EM σ α} {Q : α → Prop} (h : KeepsQ I m Q) : Keeps I m :=
  h.weaken (fun _ hs => hs) (fun _ _ hq => hq.1)

theorem keeps_pure {σ α : Type} {I : σ → Prop} (a : α) : Keeps I (Pure.pure a : EM σ α) :=
  (Triple.pure a).weaken (fun _ h => h) (fun _ _ h => h.2)

theorem keepsQ_pure {σ α : Type} {I : σ → Prop} {Q : α → Prop} (a : α) (h : Q a) : KeepsQ I (Pure.pure a : EM σ α) Q :=
  (Triple.pure a).weaken (fun _ h => h) (fun _ _ hb => ⟨hb.2, hb.1 ▸ h⟩)

theorem keepsQ_bindQ {σ α β : Type} {I : σ → Prop} {P : α → Prop} {Q : β → Prop} {x : EM σ α} {f : α → EM σ β}
    (hx : KeepsQ I x P) (hf : ∀ a, P a → KeepsQ I (f a) Q) : KeepsQ I (x >>= f) Q := by
  intro s hs
  obtain ⟨a, s1, h1, hi, hp⟩ := hx s hs
  obtain ⟨b, s2, h2, hr⟩ := hf a hp s1 hi
  exact ⟨b, s2, by rw [EM.bind_run h1, h2], hr⟩

def KeepsAll {σ κ α : Type} (I : κ → σ → Prop) (m : EM σ α) : Prop := ∀ k, Keeps (I k) m

theorem ka_pure {σ κ α : Type} {I : κ → σ → Prop} (a : α) : KeepsAll I (Pure.pure a : EM σ α) := fun _ => keeps_pure a

theorem ka_bind {σ κ α β : Type} {I : κ → σ → Prop} {x : EM σ α} {f : α → EM σ β} (hx : KeepsAll I x) (hf : ∀ a, KeepsAll I (f a)) :
    KeepsAll I (x >>= f) :=
  fun k => Triple.bind (hx k) (fun a => hf a k)

theorem ka_get {σ κ : Type} {I : κ → σ → Prop} : KeepsAll I (Tr.get : EM σ σ) := fun _ s h => ⟨s, s, rfl, h⟩

structure TExprOps {σ : Type} (cv : Conv σ) (I : σ → Prop) : Prop where
  stringToString : ∀ s, Keeps I (cv.stringToString s)
  varDefinition : ∀ n v g, Keeps I (cv.varDefinition n v g)
  unaryOperation : ∀ e t u, Keeps I (cv.unaryOperation e "!" t u)
  binaryOperation : ∀ l o r t u, binaryAllowed t o = true → Keeps I (cv.binaryOperation l o r t u)
  comparison : ∀ l o r t u, compareAllowed t o = true → Keeps I (cv.comparison l o r t u)
  logicalOperation : ∀ l o r t u, (o == "&&" || o == "||") = true → Keeps I (cv.logicalOperation l o r t u)
  varEvaluation : ∀ n u g, Keeps I (cv.varEvaluation n u g)
  sliceInstantiation : ∀ vs u, Keeps I (cv.sliceInstantiation vs u)
  sliceEvaluation : ∀ n i u, Keeps I (cv.sliceEvaluation n i u)
  sliceLen : ∀ n u, Keeps I (cv.sliceLen n u)
  stringSubscript : ∀ v a b u, Keeps I (cv.stringSubscript v a b u)
  stringLen : ∀ v u, Keeps I (cv.stringLen v u)
  funcCall : ∀ n a r u, KeepsQ I (cv.funcCall n a r u) (fun vs => u = true → vs.length = r.length)
  -- 3 = `Expr.arity (.app ..)` (Model/Typed): stdout, "", exit status
  appCall : ∀ cs u, KeepsQ I (cv.appCall cs u) (fun vs => u = true → vs.length = 3)
  input : ∀ p u, Keeps I (cv.input p u)
  copy : ∀ d s u g, Keeps I (cv.copy d s u g)
  exists_ : ∀ p u, Keeps I (cv.exists_ p u)
  readFile : ∀ p u, Keeps I (cv.readFile p u)

def ArityOK (e : Expr) (used : Bool) (vs : List String) : Prop := used = true → vs.length = e.arity

theorem keepsQ_value {σ : Type} {I : σ → Prop} {x : EM σ String} {e : Expr} {used : Bool} (hx : Keeps I x) (he : e.arity = 1) :
    KeepsQ I (x >>= fun s => pure [s]) (ArityOK e used) :=
  Triple.bind hx (fun _ => keepsQ_pure _ (fun _ => he.symm))

section
variable {σ : Type} (cv : Conv σ) (I : σ → Prop) (ops : TExprOps cv I)
include ops

theorem exprWalk_typed :
    (∀ e used, e.typed = true → KeepsQ I (evalExpr cv e used) (ArityOK e used)) ∧
    (∀ e, typedChain e = true → Keeps I (evalAppChain cv e)) ∧
    ∀ es, typedArgs es = true → Keeps I (evalArgs cv es) := by
  apply evalExpr.mutual_induct
  · intro used b _; unfold evalExpr; exact keepsQ_pure _ (fun _ => rfl)
  · intro used n _; unfold evalExpr; exact keepsQ_pure _ (fun _ => rfl)
  · intro used s _; unfold evalExpr; exact keepsQ_value (ops.stringToString s) rfl
  · intro used op x vt ih h
    simp only [Expr.typed, Bool.and_eq_true, beq_iff_eq] at h
    obtain ⟨⟨⟨rfl, hx⟩, _⟩, _⟩ := h
    unfold evalExpr
    exact Triple.bind (ih hx).keeps (fun _ => keepsQ_value (ops.unaryOperation _ _ _) rfl)
  · intro used op l r ihl ihr h
    simp only [Expr.typed, Bool.and_eq_true] at h
    obtain ⟨⟨⟨hl, hr⟩, _⟩, ha⟩ := h
    unfold evalExpr
    exact Triple.bind (ihl hl).keeps (fun _ => Triple.bind (ihr hr).keeps (fun _ =>
      keepsQ_value (ops.binaryOperation _ _ _ _ _ ha) rfl))
  · intro used op l r ihl ihr h
    simp only [Expr.typed, Bool.and_eq_true] at h
    obtain ⟨⟨⟨hl, hr⟩, _⟩, ha⟩ := h
    unfold evalExpr
    exact Triple.bind (ihl hl).keeps (fun _ => Triple.bind (ihr hr).keeps (fun _ =>
      keepsQ_value (ops.comparison _ _ _ _ _ ha) rfl))
  · intro used op l r ihl ihr h
    simp only [Expr.typed, Bool.and_eq_true] at h
    obtain ⟨⟨⟨⟨hl, hr⟩, _⟩, _⟩, ha⟩ := h
    unfold evalExpr
    exact Triple.bind (ihl hl).keeps (fun _ => Triple.bind (ihr hr).keeps (fun _ =>
      keepsQ_value (ops.logicalOperation _ _ _ _ _ ha) rfl))
  · intro used v _; unfold evalExpr; exact keepsQ_value (ops.varEvaluation _ _ _) rfl
  · intro used value index dt ihv ihi h
    simp only [Expr.typed, Bool.and_eq_true] at h
    obtain ⟨⟨⟨hv, hi⟩, _⟩, _⟩ := h
    unfold evalExpr
    exact Triple.bind (ihv hv).keeps (fun _ => Triple.bind (ihi hi).keeps (fun _ =>
      keepsQ_value (ops.sliceEvaluation _ _ _) rfl))
  · intro used value start iha ihv h
    simp only [Expr.typed, Bool.and_eq_true] at h
    obtain ⟨⟨⟨hv, ha⟩, _⟩, _⟩ := h
    unfold evalExpr
    exact Triple.bind (iha ha).keeps (fun _ => Triple.bind (ihv hv).keeps (fun _ =>
      keepsQ_value (ops.stringSubscript _ _ _ _) rfl))
  · intro used value start st iha ihb ihv h
    simp only [Expr.typed, Bool.and_eq_true] at h
    obtain ⟨⟨⟨⟨⟨hv, ha⟩, hb⟩, _⟩, _⟩, _⟩ := h
    unfold evalExpr
    exact Triple.bind (iha ha).keeps (fun _ => Triple.bind (ihb hb).keeps (fun _ => Triple.bind (ihv hv).keeps (fun _ =>
      keepsQ_value (ops.stringSubscript _ _ _ _) rfl)))
  · intro used x ih h
    simp only [Expr.typed] at h
    unfold evalExpr; exact ih h
  · intro used name rets args ih h
    simp only [Expr.typed] at h
    unfold evalExpr
    refine Triple.bind (ih h) (fun as => keepsQ_bindQ (ops.funcCall name as rets used) (fun vs hvs => ?_))
    cases used with
    | false => simp only [Bool.false_and, Bool.false_eq_true, if_false]; exact keepsQ_pure _ (fun hu => by cases hu)
    | true =>
      have : vs.length = rets.length := hvs rfl
      simp only [Bool.true_and, this, bne_self_eq_false, Bool.false_eq_true, if_false]
      exact keepsQ_pure _ (fun _ => this)
  · intro used name args next ih h
    unfold evalExpr
    exact Triple.bind (ih (by cases next <;> exact h)) (fun cs => ops.appCall cs used)
  · intro used dt vals ih h
    simp only [Expr.typed, Bool.and_eq_true] at h
    unfold evalExpr
    exact Triple.bind (ih h.1) (fun _ => keepsQ_value (ops.sliceInstantiation _ _) rfl)
  · intro used _; unfold evalExpr; exact keepsQ_value (ops.input _ _) rfl
  · intro used x ih h
    simp only [Expr.typed, Bool.and_eq_true] at h
    unfold evalExpr
    exact Triple.bind (ih h.1).keeps (fun _ => keepsQ_value (ops.input _ _) rfl)
  · intro used dst src ih h
    simp only [Expr.typed, Bool.and_eq_true] at h
    unfold evalExpr
    exact Triple.bind (ih h.1.1).keeps (fun _ => keepsQ_value (ops.copy _ _ _ _) rfl)
  · intro used x ih h
    simp only [Expr.typed, Bool.and_eq_true] at h
    unfold evalExpr; exact Triple.bind (ih h.1).keeps (fun _ => keepsQ_pure _ (fun _ => rfl))
  · intro used x ih h
    simp only [Expr.typed, Bool.and_eq_true] at h
    unfold evalExpr
    exact Triple.bind (ih h.1).keeps (fun _ => keepsQ_value (ops.exists_ _ _) rfl)
  · intro used x ih h
    simp only [Expr.typed, Bool.and_eq_true] at h
    unfold evalExpr
    refine Triple.bind (ih h.1).keeps (fun _ => ?_)
    split
    · exact keepsQ_value (ops.stringLen _ _) rfl
    · exact keepsQ_value (ops.sliceLen _ _) rfl
  · intro used path hn h
    simp only [Expr.typed, Bool.and_eq_true] at h
    simp [h.2] at hn
  · intro used path hn ih h
    simp only [Expr.typed, Bool.and_eq_true] at h
    unfold evalExpr; rw [if_neg hn]
    exact Triple.bind (ih h.1).keeps (fun _ => keepsQ_value (ops.readFile _ _) rfl)
  · intro used path data append h; simp [Expr.typed] at h
  · intro used w h; simp [Expr.typed] at h
  · intro name args nx iha ihn h
    simp only [typedChain, Bool.and_eq_true] at h
    unfold evalAppChain
    exact Triple.bind (iha h.1) (fun _ => Triple.bind (ihn h.2) (fun _ => keeps_pure _))
  · intro name args iha h
    simp only [typedChain] at h
    unfold evalAppChain
    exact Triple.bind (iha h) (fun _ => keeps_pure _)
  · intro e h1 h2 _; rw [evalAppChain.eq_3 cv e h1 h2]; exact keeps_pure _
  · intro _; unfold evalArgs; exact keeps_pure _
  · intro e rest ihe ihr h
    simp only [typedArgs, Bool.and_eq_true] at h
    unfold evalArgs
    exact Triple.bind (ihe h.1.1).keeps (fun _ => Triple.bind (ihr h.2) (fun _ => keeps_pure _))

theorem evalAppChain_typed (e : Expr) (h : typedChain e = true) : Keeps I (evalAppChain cv e) :=
  (exprWalk_typed cv I ops).2.1 e h

variable {cv I}

theorem evalExpr_typed (e : Expr) (h : e.typed = true) (used : Bool) : KeepsQ I (evalExpr cv e used) (ArityOK e used) :=
  (exprWalk_typed cv I ops).1 e used h

theorem evalArgs_typed (es : List Expr) (h : typedArgs es = true) : Keeps I (evalArgs cv es) :=
  (exprWalk_typed cv I ops).2.2 es h

theorem evalAll_typed : ∀ (es : List Expr), typedAll es = true → Keeps I (evalAll cv es) := by
  intro es
  induction es with
  | nil => intro _; unfold evalAll; exact keeps_pure _
  | cons e rest ih =>
    intro h
    simp only [typedAll, Bool.and_eq_true] at h
    unfold evalAll
    exact Triple.bind (evalExpr_typed ops e h.1 true).keeps (fun _ => Triple.bind (ih h.2) (fun _ => keeps_pure _))

theorem assignedValues_typed (count : Nat) : ∀ (n : Nat) (vals : List Expr) (i : Nat), typedArgs vals = true → n ≤ vals.length →
    Keeps I (assignedValues cv count vals n i) := by
  intro n
  induction n with
  | zero => intro vals i _ _; unfold assignedValues; exact keeps_pure _
  | succ n ih =>
    intro vals i ht hl
    cases vals with
    | nil => simp at hl
    | cons e rest =>
      simp only [typedArgs, Bool.and_eq_true] at ht
      unfold assignedValues
      refine Triple.bind (evalExpr_typed ops e ht.1.1 true).keeps (fun _ => Triple.bind ?_ (fun _ =>
        Triple.bind (ih rest (i + 1) ht.2 (by simpa using hl)) (fun _ => keeps_pure _)))
      split
      · exact Triple.bind (ops.varDefinition _ _ _) (fun _ => ops.varEvaluation _ _ _)
      · exact keeps_pure _

theorem storeValues_typed : ∀ (vars : List Var) (vals : List String), Keeps I (storeValues cv vars vals) := by
  intro vars
  induction vars with
  | nil => intro vals; unfold storeValues; exact keeps_pure _
  | cons x xs ih =>
    intro vals
    cases vals with
    | nil => unfold storeValues; exact keeps_pure _
    | cons v vs => unfold storeValues; exact Triple.bind (ops.varDefinition _ _ _) (fun _ => ih vs)

theorem assignValues_typed (vars : List Var) (vals : List Expr) (ht : typedArgs vals = true) (hl : vals.length = vars.length) :
    Keeps I (assignValues cv vars vals) := by
  unfold assignValues
  exact Triple.bind (assignedValues_typed ops _ _ _ _ ht (by omega)) (fun _ => storeValues_typed ops _ _)

theorem assignCallValues_typed (vars : List Var) (call : Expr) (ht : call.typed = true) (ha : call.arity = vars.length) :
    Keeps I (assignCallValues cv vars call) := by
  unfold assignCallValues
  refine (keepsQ_bindQ (Q := fun _ => True) (evalExpr_typed ops call ht true) (fun vs hvs => ?_)).keeps
  have : vs.length = vars.length := by rw [hvs rfl, ha]
  simp only [this, bne_self_eq_false, Bool.false_eq_true, if_false]
  exact (storeValues_typed ops _ _).weaken (fun _ hs => hs) (fun _ _ hq => ⟨hq, trivial⟩)

theorem defaultValue_typed (vt : ValueType) (h : basicDt vt.dt = true) : Keeps I (defaultValue cv vt) := by
  unfold defaultValue
  simp only [basicDt, Bool.or_eq_true, beq_iff_eq] at h
  rcases h with (h | h) | h <;> rw [h] <;> simp only
  · exact keeps_pure _
  · exact keeps_pure _
  · exact ops.stringToString _

theorem evalAppend_typed (a : Option Expr) (h : typedAppend a = true) : Keeps I (evalAppend cv a) := by
  unfold evalAppend
  cases a with
  | none => exact keeps_pure _
  | some x =>
    simp only [typedAppend, Bool.and_eq_true] at h
    simp only [h.2, Bool.not_true, Bool.false_eq_true, if_false]
    exact Triple.bind (evalExpr_typed ops x h.1 true).keeps (fun _ => keeps_pure _)

theorem evalConds_typed : ∀ (elifs : List (Expr × List Stmt)), typedElifs elifs = true → Keeps I (evalConds cv elifs)
  | [], _ => by unfold evalConds; exact keeps_pure _
  | (c, _) :: rest, h => by
    simp only [typedElifs, Bool.and_eq_true] at h
    unfold evalConds
    exact Triple.bind (evalExpr_typed ops c h.1.1.1 true).keeps (fun _ => Triple.bind (evalConds_typed rest h.2) (fun _ => keeps_pure _))

end

section
variable {vars : List Var} {vals : List Expr} {call index value cond path data e : Expr} {append : Option Expr} {v : Var}
  {init incr : Option Stmt} {st : Stmt} {body els rest : List Stmt} {elifs : List (Expr × List Stmt)}

theorem typed_vals (h : (typedArgs vals && vals.length == vars.length && !vars.isEmpty) = true) :
    typedArgs vals = true ∧ vals.length = vars.length ∧ vars.isEmpty = false := by
  simpa only [Bool.and_eq_true, and_assoc, beq_iff_eq, Bool.not_eq_true'] using h

theorem typed_callVals (h : (call.typed && call.arity == vars.length && !vars.isEmpty) = true) :
    call.typed = true ∧ call.arity = vars.length ∧ vars.isEmpty = false := by
  simpa only [Bool.and_eq_true, and_assoc, beq_iff_eq, Bool.not_eq_true'] using h

theorem typed_sliceAssign (h : (Stmt.sliceAssign v index value).typed = true) :
    index.typed = true ∧ value.typed = true ∧ basicDt (Expr.valueType value).dt = true := by
  simp only [Stmt.typed, Bool.and_eq_true] at h
  exact ⟨h.1.1.1.1.1, h.1.1.1.1.2, h.1.1.2⟩

theorem typed_ifS (h : (Stmt.ifS cond body elifs els).typed = true) :
    cond.typed = true ∧ typedStmts body = true ∧ typedElifs elifs = true ∧ typedStmts els = true := by
  simp only [Stmt.typed, Bool.and_eq_true] at h
  exact ⟨h.1.1.1.1, h.1.1.2, h.1.2, h.2⟩

theorem typed_forS (h : (Stmt.forS init cond incr body).typed = true) :
    typedOpt init = true ∧ cond.typed = true ∧ typedOpt incr = true ∧ typedStmts body = true := by
  simp only [Stmt.typed, Bool.and_eq_true] at h
  exact ⟨h.1.1.1.1, h.1.1.1.2, h.1.2, h.2⟩

theorem typed_write (h : (Stmt.expr (.write path data append)).typed = true) :
    path.typed = true ∧ data.typed = true ∧ (Expr.valueType path).isString = true ∧ (Expr.valueType data).isString = true ∧
      typedAppend append = true := by
  simpa only [Stmt.typed, Bool.and_eq_true, and_assoc] using h

theorem typed_expr (hw : ∀ p d a, e = .write p d a → False) (h : (Stmt.expr e).typed = true) :
    e.typed = true ∧ e.isCallLike = true := by
  rwa [Stmt.typed.eq_15 e hw, Bool.and_eq_true] at h

theorem typedStmts_cons (h : typedStmts (st :: rest) = true) : st.typed = true ∧ typedStmts rest = true := by
  rwa [typedStmts, Bool.and_eq_true] at h

theorem typedElifs_cons (h : typedElifs ((cond, body) :: elifs) = true) :
    cond.typed = true ∧ typedStmts body = true ∧ typedElifs elifs = true := by
  simp only [typedElifs, Bool.and_eq_true] at h
  exact ⟨h.1.1.1, h.1.2, h.2⟩

end

structure TStmtOps {σ κ : Type} (cv : Conv σ) (I : κ → σ → Prop) (pushIf pushFor pushFunc : κ → κ) (loopOK funcOK : κ → Prop) : Prop where
  expr : ∀ k, TExprOps cv (I k)
  sliceAssignment : ∀ k n i v d g, Keeps (I k) (cv.sliceAssignment n i v d g)
  funcStart : ∀ k n ps, n ≠ "" → Triple (I k) (cv.funcStart n ps) (fun _ => I (pushFunc k))
  funcEnd : ∀ k, Triple (I (pushFunc k)) cv.funcEnd (fun _ => I k)
  ret : ∀ k vs, funcOK k → Keeps (I k) (cv.ret vs)
  ifStart : ∀ k c, Triple (I k) (cv.ifStart c) (fun _ => I (pushIf k))
  ifEnd : ∀ k, Triple (I (pushIf k)) cv.ifEnd (fun _ => I k)
  elseIfStart : ∀ k c, Keeps (I (pushIf k)) (cv.elseIfStart c)
  elseIfEnd : ∀ k, Keeps (I (pushIf k)) cv.elseIfEnd
  elseStart : ∀ k, Keeps (I (pushIf k)) cv.elseStart
  elseEnd : ∀ k, Keeps (I (pushIf k)) cv.elseEnd
  forStart : ∀ k, Triple (I k) cv.forStart (fun _ => I (pushFor k))
  forIncrementStart : ∀ k, Keeps (I (pushFor k)) cv.forIncrementStart
  forIncrementEnd : ∀ k, Keeps (I (pushFor k)) cv.forIncrementEnd
  forCondition : ∀ k c, Keeps (I (pushFor k)) (cv.forCondition c)
  forEnd : ∀ k, Triple (I (pushFor k)) cv.forEnd (fun _ => I k)
  brk : ∀ k, loopOK k → Keeps (I k) cv.brk
  cont : ∀ k, loopOK k → Keeps (I k) cv.cont
  print : ∀ k vs, Keeps (I k) (cv.print vs)
  panic : ∀ k v, Keeps (I k) (cv.panic v)
  writeFile : ∀ k p c a, Keeps (I k) (cv.writeFile p c a)
  nop : ∀ k, Keeps (I k) cv.nop
  loopOK_pushFor : ∀ k, loopOK (pushFor k)
  loopOK_pushIf : ∀ k, loopOK k → loopOK (pushIf k)
  funcOK_pushFunc : ∀ k, funcOK (pushFunc k)
  funcOK_pushIf : ∀ k, funcOK k → funcOK (pushIf k)
  funcOK_pushFor : ∀ k, funcOK k → funcOK (pushFor k)

/-- a converter that does not rely on placement: a function head needs no name, `break`, `continue`, `return` run everywhere -/
structure LaxOps {σ κ : Type} (cv : Conv σ) (I : κ → σ → Prop) (pushFunc : κ → κ) (loopOK funcOK : κ → Prop) : Prop where
  funcStart : ∀ k n ps, Triple (I k) (cv.funcStart n ps) (fun _ => I (pushFunc k))
  loopOK : ∀ k, loopOK k
  funcOK : ∀ k, funcOK k

section
variable {σ κ : Type} (cv : Conv σ) (I : κ → σ → Prop) (pushFunc : κ → κ) (loopOK funcOK : κ → Prop)

/-- the side condition of the typed statement walk: the converter does not rely on placement, or the placement check `b` holds
    and the snapshot `k` has what the statement context `c` promises.  `brkAnywhere` (Model/Typed.lean: `break` allowed outside
    a loop) must be off: a converter with loop stacks cannot translate such a `break`. -/
def Guard (c : SCtx) (k : κ) (b : Bool) : Prop :=
  LaxOps cv I pushFunc loopOK funcOK ∨
    (b = true ∧ c.brkAnywhere = false ∧ (c.inLoop = true → loopOK k) ∧ (c.inFunc = true → funcOK k))

variable {cv I pushFunc loopOK funcOK} {c : SCtx} {k : κ} {a b : Bool}

theorem Guard.left (h : Guard cv I pushFunc loopOK funcOK c k (a && b)) : Guard cv I pushFunc loopOK funcOK c k a :=
  h.imp_right fun h => ⟨(Bool.and_eq_true_iff.mp h.1).1, h.2⟩

theorem Guard.right (h : Guard cv I pushFunc loopOK funcOK c k (a && b)) : Guard cv I pushFunc loopOK funcOK c k b :=
  h.imp_right fun h => ⟨(Bool.and_eq_true_iff.mp h.1).2, h.2⟩

end

section
variable {σ κ : Type} {cv : Conv σ} {I : κ → σ → Prop} {pushIf pushFor pushFunc : κ → κ} {loopOK funcOK : κ → Prop}
  (ops : TStmtOps cv I pushIf pushFor pushFunc loopOK funcOK)
include ops

theorem Guard.inIf {c : SCtx} {k : κ} {b : Bool} (h : Guard cv I pushFunc loopOK funcOK c k b) :
    Guard cv I pushFunc loopOK funcOK c (pushIf k) b :=
  h.imp_right fun h => ⟨h.1, h.2.1, fun hl => ops.loopOK_pushIf k (h.2.2.1 hl), fun hf => ops.funcOK_pushIf k (h.2.2.2 hf)⟩

theorem Guard.inFor {c : SCtx} {k : κ} {b : Bool} (h : Guard cv I pushFunc loopOK funcOK c k b) :
    Guard cv I pushFunc loopOK funcOK { c with inLoop := true } (pushFor k) b :=
  h.imp_right fun h => ⟨h.1, h.2.1, fun _ => ops.loopOK_pushFor k, fun hf => ops.funcOK_pushFor k (h.2.2.2 hf)⟩

/-- The increment runs inside the loop, else and else-if branches inside the `if`: hence the pushed snapshots. -/
theorem stmtWalk_typed :
    (∀ st, st.typed = true → ∀ c k, Guard cv I pushFunc loopOK funcOK c k (st.placed c) → Keeps (I k) (evalStmt cv st)) ∧
    (∀ incr, typedOpt incr = true → ∀ c k, Guard cv I pushFunc loopOK funcOK c (pushFor k) (placedOpt c incr) →
      Keeps (I (pushFor k)) (evalIncr cv incr)) ∧
    (∀ init, typedOpt init = true → ∀ c k, Guard cv I pushFunc loopOK funcOK c k (placedOpt c init) → Keeps (I k) (evalInit cv init)) ∧
    (∀ els, typedStmts els = true → ∀ c k, Guard cv I pushFunc loopOK funcOK c (pushIf k) (placedStmts c els) →
      Keeps (I (pushIf k)) (evalElse cv els)) ∧
    (∀ body, typedStmts body = true → ∀ c k, Guard cv I pushFunc loopOK funcOK c k (placedStmts c body) → Keeps (I k) (evalStmts cv body)) ∧
    (∀ elifs conds, typedElifs elifs = true → ∀ c k, Guard cv I pushFunc loopOK funcOK c (pushIf k) (placedElifs c elifs) →
      Keeps (I (pushIf k)) (evalElifs cv elifs conds)) ∧
    (∀ body, typedStmts body = true → ∀ c k, Guard cv I pushFunc loopOK funcOK c k (placedStmts c body) → Keeps (I k) (evalBlock cv body)) := by
  apply evalStmt.mutual_induct
  · intro vars vals ht c k _
    unfold evalStmt; exact assignValues_typed (ops.expr k) _ _ (typed_vals ht).1 (typed_vals ht).2.1
  · intro vars vals ht c k _
    unfold evalStmt; exact assignValues_typed (ops.expr k) _ _ (typed_vals ht).1 (typed_vals ht).2.1
  · intro vars call ht c k _
    unfold evalStmt; exact assignCallValues_typed (ops.expr k) _ _ (typed_callVals ht).1 (typed_callVals ht).2.1
  · intro vars call ht c k _
    unfold evalStmt; exact assignCallValues_typed (ops.expr k) _ _ (typed_callVals ht).1 (typed_callVals ht).2.1
  · intro v index value ht c k _
    obtain ⟨hi, hv, hd⟩ := typed_sliceAssign ht
    unfold evalStmt
    exact Triple.bind (evalExpr_typed (ops.expr k) index hi true).keeps (fun _ =>
      Triple.bind (evalExpr_typed (ops.expr k) value hv true).keeps (fun _ =>
        Triple.bind (defaultValue_typed (ops.expr k) _ hd) (fun _ => ops.sliceAssignment k _ _ _ _ _)))
  · intro name pub rets params body ihb ht c k hg
    rw [Stmt.placed] at hg
    unfold evalStmt
    -- placement gives the non-empty name `funcStart` asks for, and the body's context "in a function, in no loop"
    refine Triple.bind (hg.elim (fun l => l.funcStart k name _) fun h => ops.funcStart k name _ ?_) (fun _ => Triple.bind
      (ihb ht { c with inLoop := false, inFunc := true } (pushFunc k)
        (hg.imp_right fun h => ⟨(Bool.and_eq_true_iff.mp h.1).2, h.2.1, fun h => (by cases h), fun _ => ops.funcOK_pushFunc k⟩))
      (fun _ => ops.funcEnd k))
    simpa using (Bool.and_eq_true_iff.mp (Bool.and_eq_true_iff.mp h.1).1).2
  · intro vals ht c k hg
    unfold evalStmt
    exact Triple.bind (evalArgs_typed (ops.expr k) vals ht) (fun _ =>
      ops.ret k _ (hg.elim (fun l => l.funcOK k) fun h => h.2.2.2 h.1))
  · intro cond body elifs els ihb ihe ihs ht c k hg
    obtain ⟨hcd, htb, hte, htl⟩ := typed_ifS ht
    rw [Stmt.placed] at hg
    unfold evalStmt
    exact Triple.bind (evalExpr_typed (ops.expr k) cond hcd true).keeps (fun _ =>
      Triple.bind (evalConds_typed (ops.expr k) elifs hte) (fun _ =>
        Triple.bind (ops.ifStart k _) (fun _ => Triple.bind (ihb htb c (pushIf k) (hg.left.left.inIf ops)) (fun _ =>
          Triple.bind (ihe _ hte c k (hg.left.right.inIf ops)) (fun _ =>
            Triple.bind (ihs htl c k (hg.right.inIf ops)) (fun _ => ops.ifEnd k))))))
  · intro init cond incr body ihi ihn ihb ht c k hg
    obtain ⟨hti, hcd, htn, htb⟩ := typed_forS ht
    rw [Stmt.placed] at hg
    unfold evalStmt
    exact Triple.bind (ihi hti c k hg.left.left) (fun _ => Triple.bind (ops.forStart k) (fun _ =>
      Triple.bind (ihn htn { c with inLoop := true } k (hg.left.right.inFor ops)) (fun _ =>
        Triple.bind (evalExpr_typed (ops.expr (pushFor k)) cond hcd true).keeps (fun _ =>
          Triple.bind (ops.forCondition k _) (fun _ =>
            Triple.bind (ihb htb { c with inLoop := true } (pushFor k) (hg.right.inFor ops)) (fun _ => ops.forEnd k))))))
  · intro _ c k hg
    unfold evalStmt
    refine ops.brk k (hg.elim (fun l => l.loopOK k) fun h => h.2.2.1 ?_)
    simpa [Stmt.placed, h.2.1] using h.1
  · intro _ c k hg
    unfold evalStmt; exact ops.cont k (hg.elim (fun l => l.loopOK k) fun h => h.2.2.1 h.1)
  · intro es ht c k _
    unfold evalStmt; exact Triple.bind (evalAll_typed (ops.expr k) es ht) (fun _ => ops.print k _)
  · intro e ht c k _
    unfold evalStmt; exact Triple.bind (evalExpr_typed (ops.expr k) e ht true).keeps (fun _ => ops.panic k _)
  · intro path data append hn ht
    simp [(typed_write ht).2.2.1] at hn
  · intro path data append hn ht c k _
    obtain ⟨hpa, hd, _, hds, ha⟩ := typed_write ht
    unfold evalStmt
    simp only [if_neg hn, hds, Bool.not_true, Bool.false_eq_true, if_false]
    exact Triple.bind (evalExpr_typed (ops.expr k) path hpa true).keeps (fun _ =>
      Triple.bind (evalExpr_typed (ops.expr k) data hd true).keeps (fun _ =>
        Triple.bind (evalAppend_typed (ops.expr k) append ha) (fun _ => ops.writeFile k _ _ _)))
  · intro e hw ht c k _
    rw [evalStmt.eq_15 cv e hw]
    exact Triple.bind (evalExpr_typed (ops.expr k) e (typed_expr hw ht).1 false).keeps (fun _ => keeps_pure _)
  · intro _ c k _; unfold evalElse; exact keeps_pure _
  · intro st rest ihs ihr ht c k hg
    obtain ⟨hts, htr⟩ := typedStmts_cons ht
    rw [placedStmts] at hg
    unfold evalElse
    exact Triple.bind (ops.elseStart k) (fun _ => Triple.bind (ihs hts c (pushIf k) hg.left) (fun _ =>
      Triple.bind (ihr htr c (pushIf k) hg.right) (fun _ => ops.elseEnd k)))
  · intro _ c k _; unfold evalStmts; exact keeps_pure _
  · intro st rest ihs ihr ht c k hg
    obtain ⟨hts, htr⟩ := typedStmts_cons ht
    rw [placedStmts] at hg
    unfold evalStmts
    exact Triple.bind (ihs hts c k hg.left) (fun _ => ihr htr c k hg.right)
  · intro _ c k _; unfold evalBlock; exact ops.nop k
  · intro st rest ihs ihr ht c k hg
    obtain ⟨hts, htr⟩ := typedStmts_cons ht
    rw [placedStmts] at hg
    unfold evalBlock
    exact Triple.bind (ihs hts c k hg.left) (fun _ => ihr htr c k hg.right)
  · intro cond body rest cd cs ihb ihr ht c k hg
    obtain ⟨_, htb, htr⟩ := typedElifs_cons ht
    rw [placedElifs] at hg
    unfold evalElifs
    exact Triple.bind (ops.elseIfStart k _) (fun _ => Triple.bind (ihb htb c (pushIf k) hg.left) (fun _ =>
      Triple.bind (ops.elseIfEnd k) (fun _ => ihr htr c k hg.right)))
  · intro elifs conds h _ c k _; rw [evalElifs.eq_2 cv elifs conds h]; exact keeps_pure _
  · intro i ih ht c k hg
    unfold evalIncr
    exact Triple.bind (ops.forIncrementStart k) (fun _ => Triple.bind (ih ht c (pushFor k) hg) (fun _ => ops.forIncrementEnd k))
  · intro _ c k _; unfold evalIncr; exact keeps_pure _
  · intro i ih ht c k hg
    unfold evalInit; exact ih ht c k hg
  · intro _ c k _; unfold evalInit; exact keeps_pure _

variable (cv I pushIf pushFor pushFunc loopOK funcOK)

theorem evalStmt_typed (st : Stmt) (ht : st.typed = true) (c : SCtx) (hp : st.placed c = true) (hb : c.brkAnywhere = false) (k : κ)
    (hl : c.inLoop = true → loopOK k) (hf : c.inFunc = true → funcOK k) : Keeps (I k) (evalStmt cv st) :=
  (stmtWalk_typed ops).1 st ht c k (.inr ⟨hp, hb, hl, hf⟩)

theorem evalInit_typed (init : Option Stmt) (ht : typedOpt init = true) (c : SCtx) (hp : placedOpt c init = true) (hb : c.brkAnywhere = false) (k : κ)
    (hl : c.inLoop = true → loopOK k) (hf : c.inFunc = true → funcOK k) : Keeps (I k) (evalInit cv init) :=
  (stmtWalk_typed ops).2.2.1 init ht c k (.inr ⟨hp, hb, hl, hf⟩)

theorem evalIncr_typed (incr : Option Stmt) (ht : typedOpt incr = true) (c : SCtx) (hp : placedOpt c incr = true) (hb : c.brkAnywhere = false) (k : κ)
    (hl : c.inLoop = true → loopOK (pushFor k)) (hf : c.inFunc = true → funcOK (pushFor k)) : Keeps (I (pushFor k)) (evalIncr cv incr) :=
  (stmtWalk_typed ops).2.1 incr ht c k (.inr ⟨hp, hb, hl, hf⟩)

theorem evalElse_typed (els : List Stmt) (ht : typedStmts els = true) (c : SCtx) (hp : placedStmts c els = true) (hb : c.brkAnywhere = false) (k : κ)
    (hl : c.inLoop = true → loopOK (pushIf k)) (hf : c.inFunc = true → funcOK (pushIf k)) : Keeps (I (pushIf k)) (evalElse cv els) :=
  (stmtWalk_typed ops).2.2.2.1 els ht c k (.inr ⟨hp, hb, hl, hf⟩)

theorem evalBlock_typed (body : List Stmt) (ht : typedStmts body = true) (c : SCtx) (hp : placedStmts c body = true) (hb : c.brkAnywhere = false) (k : κ)
    (hl : c.inLoop = true → loopOK k) (hf : c.inFunc = true → funcOK k) : Keeps (I k) (evalBlock cv body) :=
  (stmtWalk_typed ops).2.2.2.2.2.2 body ht c k (.inr ⟨hp, hb, hl, hf⟩)

theorem evalStmts_typed (body : List Stmt) (ht : typedStmts body = true) (c : SCtx) (hp : placedStmts c body = true) (hb : c.brkAnywhere = false) (k : κ)
    (hl : c.inLoop = true → loopOK k) (hf : c.inFunc = true → funcOK k) : Keeps (I k) (evalStmts cv body) :=
  (stmtWalk_typed ops).2.2.2.2.1 body ht c k (.inr ⟨hp, hb, hl, hf⟩)

theorem evalElifs_typed (elifs : List (Expr × List Stmt)) (conds : List String) (ht : typedElifs elifs = true) (c : SCtx)
    (hp : placedElifs c elifs = true) (hb : c.brkAnywhere = false) (k : κ)
    (hl : c.inLoop = true → loopOK (pushIf k)) (hf : c.inFunc = true → funcOK (pushIf k)) : Keeps (I (pushIf k)) (evalElifs cv elifs conds) :=
  (stmtWalk_typed ops).2.2.2.2.2.1 elifs conds ht c k (.inr ⟨hp, hb, hl, hf⟩)

end

end Tsh.Tr
