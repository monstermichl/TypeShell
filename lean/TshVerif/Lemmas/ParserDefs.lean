/-
  What a definition statement does to the names it uses, read off `DefRun` in ANY context: which of its names must be new, and
  that a name which already exists on the same level keeps its type (fix 4a3f869).
-/
import TshVerif.Lemmas.ParserStmtRuns
namespace Tsh.Parser
open Tsh Tsh.Tr Tsh.LexTables

/-- the variable `v` made for the written name `t`: under that name (prefixed on the top level of an imported file), on the level of
    the context, with the type of a variable of that level that the lookup finds -/
def defFact (ctx : Ctx) (pfx : String) (t : Tok) (v : Var) : Prop :=
  v.name = (if ctx.global then prefixed pfx t.val else t.val) ∧ v.global = ctx.global ∧
  ∀ w, ctx.findVar t.val pfx ctx.global = some w → w.global = ctx.global → w.vt.dt ≠ .unknown → v.vt = w.vt

def defP (ctx : Ctx) (st : Stmt) : Prop :=
  ∃ (pfx : String) (names : List Tok) (short : Bool), names ≠ [] ∧ (defVars st).length = names.length ∧
    (∀ i (h1 : i < names.length) (h2 : i < (defVars st).length), defFact ctx pfx names[i] (defVars st)[i]) ∧
    (names.length = 1 → ∀ t ∈ names, isNewVar ctx pfx t.val = true) ∧
    (short = false → ∀ t ∈ names, isNewVar ctx pfx t.val = true) ∧
    (∃ t ∈ names, isNewVar ctx pfx t.val = true) ∧
    hasDupNames names = false

theorem adopt_some {v v' : Var} {t : ValueType} (h : adopt (v, t) = some v') :
    v'.name = v.name ∧ v'.global = v.global ∧ (v.vt.dt ≠ .unknown → v' = v) := by
  unfold adopt at h
  split at h
  · rename_i hu
    cases h
    exact ⟨rfl, rfl, fun hn => absurd (by simpa using hu) hn⟩
  · split at h
    · cases h
      exact ⟨rfl, rfl, fun _ => rfl⟩
    · cases h

theorem mkVar_some {ctx : Ctx} {pfx : String} {spec : ValueType} {t : Tok} {v : Var} (h : mkVar ctx pfx spec t = some v) :
    v.name = (if ctx.global then prefixed pfx t.val else t.val) ∧ v.global = ctx.global ∧
      ∀ w, ctx.findVar t.val pfx ctx.global = some w → w.global = ctx.global → v.vt = w.vt := by
  unfold mkVar at h
  cases hw : ctx.findVar t.val pfx ctx.global with
  | none =>
    rw [hw] at h
    cases h
    exact ⟨rfl, rfl, fun _ hw' => nomatch hw'⟩
  | some w =>
    rw [hw] at h
    dsimp only at h
    split at h
    · cases h
    · rename_i hsp
      cases h
      refine ⟨rfl, rfl, fun w' hw' hg => ?_⟩
      cases hw'
      dsimp only
      split
      · rfl
      · rename_i hc
        -- a type was specified: it is the variable's type (checked just before)
        simp only [Bool.and_eq_true, beq_iff_eq, not_and] at hc
        simp only [Bool.and_eq_true, bne_iff_ne, ne_eq, Bool.not_eq_true', not_and, Bool.not_eq_false] at hsp
        exact equals_eq (hsp (hc hg))

theorem DefHead.defP {ctx : Ctx} {pfx : String} {short : Bool} {names : List Tok} {spec : ValueType} {vars vs : List Var}
    (hh : DefHead ctx pfx short names spec vars) (hl : vs.length = names.length)
    (hf : ∀ i (h1 : i < names.length) (h2 : i < vs.length), defFact ctx pfx names[i] vs[i]) {st : Stmt} (hst : defVars st = vs) :
    defP ctx st :=
  ⟨pfx, names, short, hh.ne, by rw [hst, hl], by rw [hst]; exact hf, hh.one, hh.var, hh.new, hh.dup⟩

theorem adopted_facts {ctx : Ctx} {pfx : String} {short : Bool} {names : List Tok} {spec : ValueType} {vars vars' : List Var}
    {types : List ValueType} (hh : DefHead ctx pfx short names spec vars) (hlen : types.length = vars.length)
    (hv' : (vars.zip types).mapM adopt = some vars') :
    vars'.length = names.length ∧ ∀ i (h1 : i < names.length) (h2 : i < vars'.length), defFact ctx pfx names[i] vars'[i] := by
  have hvars := mapM_get hh.vars
  have hv' := mapM_get hv'
  have hz : (vars.zip types).length = vars.length := by simp [List.length_zip, hlen]
  refine ⟨by rw [hv'.1, hz, hvars.1], fun i h1 h2 => ?_⟩
  have hi : i < vars.length := by rw [hvars.1]; exact h1
  have hiz : i < (vars.zip types).length := by rw [hz]; exact hi
  obtain ⟨hn, hg, hk⟩ := mkVar_some (hvars.2 i h1 hi)
  have ha := hv'.2 i hiz h2
  rw [List.getElem_zip] at ha
  obtain ⟨an, ag, ak⟩ := adopt_some ha
  refine ⟨an ▸ hn, ag ▸ hg, fun w hw hwg hwu => ?_⟩
  -- the variable exists on this level with a type: `mkVar` gave it that type, so nothing is adopted
  have hvw := hk w hw hwg
  rw [ak (hvw ▸ hwu)]
  exact hvw

theorem def_varDefinition (fuel : Nat) (ctx : Ctx) : PostOk (evalVarDefinition fuel ctx) (defP ctx) :=
  PostOk.mono (evalVarDefinition_run fuel ctx).ok fun _ h => by
    cases h with
    | values hh _ _ hlen hv' _ | call hh _ hlen hv' _ =>
      obtain ⟨hl, hf⟩ := adopted_facts hh hlen hv'
      exact hh.defP hl hf rfl
    | defaults hh _ =>
      have hvars := mapM_get hh.vars
      refine hh.defP hvars.1 (fun i h1 h2 => ?_) rfl
      obtain ⟨hn, hg, hk⟩ := mkVar_some (hvars.2 i h1 h2)
      exact ⟨hn, hg, fun w hw hwg _ => hk w hw hwg⟩

end Tsh.Parser
