/-
  The bash converter emits its helper routines under three flags.  Every line that calls a helper routine comes
  with the routine's flag set, for every program; Props/C16.lean concludes that a script that calls `_sah`,
  `_sch` or `_ssh` contains the routine's definition.
-/
import TshVerif.Lemmas.BashFrame
namespace Tsh.Bash
open Tsh Tsh.Tr

def HOk {α : Type} (m : BM α) : Prop := Rel HStep m

theorem Emits.hok {α : Type} {n : Nat} {m : BM α} (h : Emits n m) : HOk m := fun s a s' hr => (h s a s' hr).helpers

def hokClosed : Closed St := Closed.ofRel HStep HStep.refl HStep.trans

theorem hok_bind {α β : Type} {x : BM α} {f : α → BM β} (hx : HOk x) (hf : ∀ a, HOk (f a)) : HOk (x >>= f) :=
  Rel.bind (R := HStep) HStep.trans hx hf

theorem hok_addLine (l : Line) (hl : l.needsNone = true) : HOk (addLine l) := by
  intro s a s' h; cases h
  refine ⟨id, id, id, rfl, [l], rfl, fun x hx => ?_⟩
  cases List.mem_singleton.mp hx
  exact Line.flagged_of_needsNone hl _

theorem hok_flagless (f : St → St)
    (h : ∀ s, ((f s).code, (f s).startCode, (f s).sahReq, (f s).schReq, (f s).sshReq) = (s.code, s.startCode, s.sahReq, s.schReq, s.sshReq)) :
    HOk (Tr.modify f : BM Unit) := by
  refine Rel.modify f fun s => ?_
  have := h s
  simp only [Prod.mk.injEq] at this
  obtain ⟨h1, h2, h3, h4, h5⟩ := this
  exact ⟨fun e => h3 ▸ e, fun e => h4 ▸ e, fun e => h5 ▸ e, h2, [], h1, fun _ h => nomatch h⟩

theorem hok_currentForVar : HOk currentForVar := by
  intro s a s' h
  unfold currentForVar at h
  split at h <;> cases h
  exact .refl _

theorem hok_stmtOps : StmtOps hokClosed conv where
  sliceAssignment := fun n i v d g => (emits_sliceAssignment n i v d g).hok
  funcStart := fun _ _ => hok_bind (hok_flagless _ fun _ => rfl) fun _ => hok_bind (hok_addLine _ rfl) fun _ => (emits_localParams _ _).hok
  funcEnd := hok_bind (hok_addLine _ rfl) fun _ => hok_flagless _ fun _ => rfl
  ret := fun vs => (emits_ret vs).hok
  ifStart := fun _ => hok_addLine _ rfl
  ifEnd := hok_addLine _ rfl
  elseIfStart := fun _ => hok_addLine _ rfl
  elseIfEnd := Rel.pure HStep.refl _
  elseStart := hok_addLine _ rfl
  elseEnd := Rel.pure HStep.refl _
  forStart := hok_bind (hok_flagless _ fun _ => rfl) fun _ => hok_bind hok_currentForVar fun _ =>
    hok_bind (hok_addLine _ rfl) fun _ => hok_addLine _ rfl
  forIncrementStart := hok_bind hok_currentForVar fun _ => hok_addLine _ rfl
  forIncrementEnd := hok_bind hok_currentForVar fun _ => hok_bind (hok_addLine _ rfl) fun _ => hok_addLine _ rfl
  forCondition := fun _ => hok_addLine _ rfl
  forEnd := hok_bind (hok_addLine _ rfl) fun _ => hok_flagless _ fun _ => rfl
  brk := hok_addLine _ rfl
  cont := hok_addLine _ rfl
  print := fun _ => hok_addLine _ rfl
  panic := fun v => (emits_panicOp v).hok
  writeFile := fun _ _ _ => hok_addLine _ rfl
  nop := hok_addLine _ rfl

theorem evalStmts_hok (body : List Stmt) : HOk (evalStmts conv body) :=
  evalStmts_closed hokClosed conv (quiet_exprOps.imp Emits.hok) hok_stmtOps (fun m => Rel.panic m) body

end Tsh.Bash
