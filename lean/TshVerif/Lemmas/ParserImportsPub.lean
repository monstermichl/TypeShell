/-
  What an importing file gets to see: a step of `registerImported` enters public names only (`regStep_spec`).
-/
import TshVerif.Lemmas.ParserFiles
namespace Tsh.Parser
open Tsh Tsh.Tr Tsh.LexTables

def AllPub (ctx : Ctx) : Prop := (∀ e ∈ ctx.funcs, e.2.pub = true) ∧ (∀ e ∈ ctx.vars, e.2.pub = true)

theorem regStep_pub (acc : Ctx × List Stmt) (st : Stmt) (h : AllPub acc.1) : AllPub (regStep acc st).1 := by
  obtain e | ⟨-, -, hv, hf⟩ := regStep_spec acc st
  · rwa [e]
  · exact ⟨fun x hx => (hf x hx).elim (h.1 x) id, fun x hx => (hv x hx).elim (h.2 x) id⟩

/-- **An importing file sees only public names**: the context in which a file's own statements are parsed knows, from its
    imports, only functions and variables whose names are public in the file that defines them. -/
theorem evalImports_pub {depth : Nat} (fs : FileSys) (path : String) (importing : List String) (fuel : Nat) (s0 s' : PSt)
    (r : Ctx × List Stmt) (h : evalImports depth fs path importing fuel {} s0 = .ok r s') : AllPub r.1 := by
  obtain ⟨imp, stmts, rfl⟩ := evalImports_of_ok h
  exact List.foldlRecOn (motive := fun a => AllPub a.1) stmts regStep (b := ({ imports := imp }, [])) ⟨by simp, by simp⟩ fun acc h st _ => regStep_pub acc st h

end Tsh.Parser
