/-
  The shape of every emitted bash script: a declarative grammar of well-bracketed line sequences
  (`Shape`) with explicit loop numbering, and what follows from it: the nesting depth returns to 0,
  the loop flags are numbered consecutively, a command sequence never starts with a closer.
  That the converter emits such sequences is Lemmas/BashStmt.lean.
-/
import TshVerif.Lemmas.BashFrame
namespace Tsh.Bash
open Tsh Tsh.Tr

inductive K
  | blk                -- a sequence of complete commands
  | elifs              -- the `elif …` branches of an open `if`
  | els                -- the optional `else …` branch of an open `if`
  | incr (n : Nat)     -- the guarded increment part of loop number `n`
deriving DecidableEq

/-- `ls` is a well-formed line sequence of sort `k` whose loops are numbered `lo, …, hi-1` in the order in which they start -/
inductive Shape : K → Nat → Nat → List Line → Prop
  | nil {c} : Shape .blk c c []
  | simple {c c' l rest} : l.isSimple = true → Shape .blk c c' rest → Shape .blk c c' (l :: rest)
  | ifChain {c c1 c2 c3 c4 cond body elifs els rest} :
      Shape .blk c c1 body → body ≠ [] → Shape .elifs c1 c2 elifs → Shape .els c2 c3 els → Shape .blk c3 c4 rest →
      Shape .blk c c4 (.ifStart "if" cond :: (body ++ (elifs ++ (els ++ .fi :: rest))))
  | loop {c c1 c2 c3 c4 x incr condLines body rest} :
      Shape (.incr c) (c + 1) c1 incr → Shape .blk c1 c2 condLines → Shape .blk c2 c3 body → body ≠ [] →
      Shape .blk c3 c4 rest →
      Shape .blk c c4 (.forFlagInit c :: .whileStart :: (incr ++ (condLines ++ .forCond x :: (body ++ .done :: rest))))
  | func {c c1 c2 n params body rest} :
      (∀ l ∈ params, l.isSimple = true) → Shape .blk c c1 body → body ≠ [] → Shape .blk c1 c2 rest →
      Shape .blk c c2 (.funcStart n :: (params ++ (body ++ .funcEnd :: rest)))
  | elifsNil {c} : Shape .elifs c c []
  | elifsCons {c c1 c2 cond body tail} :
      Shape .blk c c1 body → body ≠ [] → Shape .elifs c1 c2 tail →
      Shape .elifs c c2 (.ifStart "elif" cond :: (body ++ tail))
  | elsNone {c} : Shape .els c c []
  | elsSome {c c1 body} : Shape .blk c c1 body → body ≠ [] → Shape .els c c1 (.else_ :: body)
  | incrNone {n c} : Shape (.incr n) c c []
  | incrSome {n c c1 body} : Shape .blk c c1 body → body ≠ [] → Shape (.incr n) c c1 (.incrStart n :: (body ++ [.fi, .incrFlagSet n]))

theorem Shape.ofSimples {c : Nat} : ∀ (ls : List Line), (∀ l ∈ ls, l.isSimple = true) → Shape .blk c c ls := by
  intro ls
  induction ls with
  | nil => intro _; exact Shape.nil
  | cons l rest ih =>
    intro h
    exact Shape.simple (h l (by simp)) (ih (fun x hx => h x (by simp [hx])))

theorem Shape.append_aux {k a b x} (h : Shape k a b x) :
    k = .blk → ∀ {c y}, Shape .blk b c y → Shape .blk a c (x ++ y) := by
  induction h with
  | nil => intro _ c y hy; simpa using hy
  | simple hl _ ih => intro hk c y hy; exact Shape.simple hl (ih hk hy)
  | @ifChain c0 c1 c2 c3 c4 cond body elifs els rest hb hne ht he _ _ _ _ ihr =>
    intro hk c y hy
    have := Shape.ifChain (cond := cond) hb hne ht he (ihr rfl hy)
    simpa [List.append_assoc] using this
  | @loop c0 c1 c2 c3 c4 x incr condLines body rest hi hc hb hne _ _ _ _ ihr =>
    intro hk c y hy
    have := Shape.loop (x := x) hi hc hb hne (ihr rfl hy)
    simpa [List.append_assoc] using this
  | @func c0 c1 c2 n params body rest hp hb hne _ _ ihr =>
    intro hk c y hy
    have := Shape.func (n := n) hp hb hne (ihr rfl hy)
    simpa [List.append_assoc] using this
  | _ => intro hk; cases hk

theorem Shape.append {a b c x y} (hx : Shape .blk a b x) (hy : Shape .blk b c y) : Shape .blk a c (x ++ y) :=
  Shape.append_aux hx rfl hy

def depthDelta : Line → Int
  | .funcStart _ | .whileStart | .incrStart _ => 1
  | .ifStart w _ => if w == "if" then 1 else 0
  | .funcEnd | .done | .fi => -1
  | _ => 0

def depthSum : List Line → Int
  | [] => 0
  | l :: rest => depthDelta l + depthSum rest

def Line.isCloser : Line → Bool
  | .fi | .else_ | .funcEnd | .done => true
  | .ifStart w _ => w != "if"
  | _ => false

theorem simple_line {l : Line} (h : l.isSimple = true) : depthDelta l = 0 ∧ l.isCloser = false := by
  cases l <;> first | exact Bool.noConfusion h | exact ⟨rfl, rfl⟩

theorem depthSum_append (a b : List Line) : depthSum (a ++ b) = depthSum a + depthSum b := by
  induction a with
  | nil => exact (Int.zero_add _).symm
  | cons l rest ih => rw [List.cons_append, depthSum, depthSum, ih, Int.add_assoc]

theorem depthSum_simples (ls : List Line) (h : ∀ l ∈ ls, l.isSimple = true) : depthSum ls = 0 := by
  induction ls with
  | nil => rfl
  | cons l rest ih => rw [depthSum, (simple_line (h l (.head _))).1, ih fun x hx => h x (.tail _ hx)]; rfl

theorem Shape.balanced {k lo hi ls} (h : Shape k lo hi ls) : depthSum ls = 0 := by
  induction h with
  | simple hl _ ih => rw [depthSum, (simple_line hl).1, ih]; rfl
  | ifChain _ _ _ _ _ ihb iht ihe ihr =>
    simp only [depthSum, depthSum_append, ihb, iht, ihe, ihr]; rfl
  | loop _ _ _ _ _ ihi ihc ihb ihr =>
    simp only [depthSum, depthSum_append, ihi, ihc, ihb, ihr]; rfl
  | func hp _ _ _ ihb ihr =>
    simp only [depthSum, depthSum_append, depthSum_simples _ hp, ihb, ihr]; rfl
  | elifsCons _ _ _ ihb iht => simp only [depthSum, depthSum_append, ihb, iht]; rfl
  | elsSome _ _ ihb => simp only [depthSum, ihb]; rfl
  | incrSome _ _ ihb => simp only [depthSum, depthSum_append, ihb]; rfl
  | _ => rfl

def flagInits : List Line → List Nat
  | [] => []
  | .forFlagInit n :: rest => n :: flagInits rest
  | _ :: rest => flagInits rest

theorem flagInits_append (a b : List Line) : flagInits (a ++ b) = flagInits a ++ flagInits b := by
  fun_induction flagInits a with
  | case1 => rfl
  | case2 n rest ih => rw [List.cons_append, flagInits, ih, List.cons_append]
  | case3 l rest hne ih => rw [List.cons_append, flagInits.eq_3 _ _ hne, ih]

theorem flagInits_simple_cons {l : Line} (h : l.isSimple = true) (rest : List Line) : flagInits (l :: rest) = flagInits rest :=
  flagInits.eq_3 _ _ fun n e => by subst e; cases h

theorem flagInits_simples (ls : List Line) (h : ∀ l ∈ ls, l.isSimple = true) : flagInits ls = [] := by
  induction ls with
  | nil => rfl
  | cons l rest ih => rw [flagInits_simple_cons (h l (.head _)), ih fun x hx => h x (.tail _ hx)]

theorem Shape.count {k lo hi ls} (h : Shape k lo hi ls) : ∃ n, hi = lo + n ∧ flagInits ls = List.range' lo n := by
  induction h with
  | simple hl _ ih => rwa [flagInits_simple_cons hl]
  | ifChain _ _ _ _ _ ihb iht ihe ihr =>
    obtain ⟨n1, rfl, e1⟩ := ihb; obtain ⟨n2, rfl, e2⟩ := iht; obtain ⟨n3, rfl, e3⟩ := ihe; obtain ⟨n4, rfl, e4⟩ := ihr
    refine ⟨n1 + (n2 + (n3 + n4)), by omega, ?_⟩
    simp only [flagInits, flagInits_append, e1, e2, e3, e4]
    rw [List.range'_append_1, List.range'_append_1, List.range'_append_1]
  | loop _ _ _ _ _ ihi ihc ihb ihr =>
    obtain ⟨n1, rfl, e1⟩ := ihi; obtain ⟨n2, rfl, e2⟩ := ihc; obtain ⟨n3, rfl, e3⟩ := ihb; obtain ⟨n4, rfl, e4⟩ := ihr
    refine ⟨(n1 + (n2 + (n3 + n4))) + 1, by omega, ?_⟩
    simp only [flagInits, flagInits_append, e1, e2, e3, e4]
    rw [List.range'_append_1, List.range'_append_1, List.range'_append_1, List.range'_succ]
  | func hp _ _ _ ihb ihr =>
    obtain ⟨n1, rfl, e1⟩ := ihb; obtain ⟨n2, rfl, e2⟩ := ihr
    refine ⟨n1 + n2, by omega, ?_⟩
    simp only [flagInits, flagInits_append, flagInits_simples _ hp, e1, e2, List.nil_append]
    rw [List.range'_append_1]
  | elifsCons _ _ _ ihb iht =>
    obtain ⟨n1, rfl, e1⟩ := ihb; obtain ⟨n2, rfl, e2⟩ := iht
    refine ⟨n1 + n2, by omega, ?_⟩
    simp only [flagInits, flagInits_append, e1, e2]
    rw [List.range'_append_1]
  | elsSome _ _ ihb => exact ihb
  | incrSome _ _ ihb =>
    obtain ⟨n1, rfl, e1⟩ := ihb
    exact ⟨n1, rfl, by simp only [flagInits, flagInits_append, e1, List.append_nil]⟩
  | _ => exact ⟨0, rfl, rfl⟩

/-- so a loop nested in another loop (or following it) never shares its first-iteration flag -/
theorem Shape.flags {k lo hi ls} (h : Shape k lo hi ls) : flagInits ls = List.range' lo (hi - lo) := by
  obtain ⟨n, rfl, e⟩ := h.count; rwa [Nat.add_sub_cancel_left]

/-- with the non-empty bodies of the grammar: no `then`/`else`/`do`/`{` is directly followed by its closer -/
theorem Shape.head_not_closer {lo hi l rest} (h : Shape .blk lo hi (l :: rest)) : l.isCloser = false := by
  cases h with
  | simple hl _ => exact (simple_line hl).2
  | ifChain => rfl
  | loop => rfl
  | func => rfl

end Tsh.Bash
