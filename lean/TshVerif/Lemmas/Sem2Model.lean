/-
  Facts about the bash model with functions (`Sem2/Bash`) alone: sequencing of the big-step relation; store updates; what one
  simple line may change (`stepSimple_effect`); more functions at the end of the table change no execution (`exec_addH`); the
  frame theorem (`exec_frame`).
-/
import TshVerif.Lemmas.Sem2Det
import TshVerif.Lemmas.SemNames
namespace Tsh.Sem2
open Tsh Tsh.Bash Tsh.Sem

theorem flats_append (a b : List Cmd) : flats (a ++ b) = flats a ++ flats b := by
  induction a with
  | nil => simp [flats]
  | cons c cs ih => simp [flats, ih]

theorem flats_simples (ls : List Line) : flats (ls.map Cmd.simple) = ls := by
  induction ls with
  | nil => simp [flats]
  | cons l ls ih => simp [flats, flat, ih]

theorem flats_simples_reverse (ls : List Line) : flats ((ls.map Cmd.simple).reverse) = ls.reverse := by
  rw [← List.map_reverse, flats_simples]

theorem execCmds_append {a b : List Cmd} {c c1 c' : Cfg} {o : Out}
    (h1 : ExecCmds a c .normal c1) (h2 : ExecCmds b c1 o c') : ExecCmds (a ++ b) c o c' := by
  induction a generalizing c with
  | nil => cases h1; exact h2
  | cons x xs ih =>
    cases h1 with
    | cons hx hxs => exact ExecCmds.cons hx (ih hxs)
    | stop hx hne => exact absurd rfl hne

theorem execCmds_stop_append {a : List Cmd} (b : List Cmd) {c c' : Cfg} {o : Out}
    (h1 : ExecCmds a c o c') (hne : o ≠ .normal) : ExecCmds (a ++ b) c o c' := by
  induction a generalizing c with
  | nil => cases h1; exact absurd rfl hne
  | cons x xs ih =>
    cases h1 with
    | cons hx hxs => exact ExecCmds.cons hx (ih hxs)
    | stop hx hne' => exact ExecCmds.stop hx hne'

theorem execCmds_single {x : Cmd} {c c' : Cfg} {o : Out} (h : ExecCmd x c o c') : ExecCmds [x] c o c' := by
  by_cases ho : o = .normal
  · subst ho; exact ExecCmds.cons h ExecCmds.nil
  · exact ExecCmds.stop h ho

theorem execCmds_step {l : Line} {c c' : Cfg} {o : Out} (hc : isCall l = false) (h : stepSimple l c = some (o, c')) :
    ExecCmds [Cmd.simple l] c o c' := execCmds_single (ExecCmd.simple hc h)

/-- `Sem.set_other`, `Sem.set_same` with the configuration around them: a goal about `{ m with ρ := .. }.ρ` then matches as it
    stands (otherwise the unifier unfolds `Store.set` and evaluates the comparison of the names, again and again) -/
theorem Cfg.rho_set_other (m : Cfg) (x y v : String) (h : y ≠ x) : ({ m with ρ := m.ρ.set x v } : Cfg).ρ y = m.ρ y :=
  Sem.set_other m.ρ x y v h

theorem Cfg.rho_set_same (m : Cfg) (x v : String) : ({ m with ρ := m.ρ.set x v } : Cfg).ρ x = v :=
  Sem.set_same m.ρ x v

theorem restore_other : ∀ (saved : List (String × String)) (ρ : Store) (x : String), (∀ p ∈ saved, p.1 ≠ x) → restore saved ρ x = ρ x
  | [], _, _, _ => rfl
  | (y, v) :: rest, ρ, x, h => by
    simp only [restore]
    rw [restore_other rest _ x (fun p hp => h p (by simp [hp]))]
    exact Sem.set_other _ _ _ _ (fun e => h (y, v) (by simp) e.symm)

/-- the variables a simple line may assign (arrays are not variables) -/
def lineTargets : Line → List String
  | .assign n _ => [n]
  | .assignArith n _ _ _ => [n]
  | .assignTest n _ _ _ => [n]
  | .localAssign n _ => [n]
  | .forFlagInit k => [flagName k]
  | .incrFlagSet k => [flagName k]
  | .dvcIncr => ["_dvc"]
  | .sahInit _ _ _ => ["_c"]
  | .sah _ _ _ _ => ["_c"]
  | .sliceLoad t _ _ => [t]
  | .assignSliceLen n _ => [n]
  | .assignStrLen n _ => [n]
  | .ssh _ _ _ => ["_ls", "_ll", "_ret"]
  | _ => []

theorem stepSimple_effect (l : Line) (c : Cfg) : ∀ {o : Out} {c' : Cfg}, stepSimple l c = some (o, c') →
    (∀ fs, stepSimple l { c with funs := fs } = some (o, { c' with funs := fs })) ∧ c'.funs = c.funs ∧
    (∀ x, x ∉ lineTargets l → c'.ρ x = c.ρ x) ∧
    (c'.saved = c.saved ∨ ∃ n i, l = .localAssign n i ∧ c'.saved = (n, c.ρ n) :: c.saved) := by
  intro o c'
  -- one case per branch of `stepSimple`, with what the branch has found out about the texts it expands
  fun_cases stepSimple l c
  case case12 n i =>  -- `local`
    intro h
    cases h
    exact ⟨fun _ => rfl, rfl, fun x hx => c.rho_set_other _ _ _ (fun e => hx (List.mem_singleton.mpr e)), Or.inr ⟨n, i, rfl, rfl⟩⟩
  all_goals intro h
  all_goals cases h
  all_goals refine ⟨fun _ => by simp only [stepSimple, *, if_true], rfl, fun x hx => ?_, Or.inl rfl⟩
  case case36 =>  -- `_ssh`
    simp only [lineTargets, List.mem_cons, List.mem_nil_iff, or_false, not_or] at hx
    show (((c.ρ.set "_ls" _).set "_ll" _).set "_ret" _) x = c.ρ x
    rw [Sem.set_other _ _ _ _ hx.2.2, Sem.set_other _ _ _ _ hx.2.1, Sem.set_other _ _ _ _ hx.1]
  all_goals first | rfl | exact c.rho_set_other _ _ _ (fun e => hx (List.mem_singleton.mpr e))

/-- the same configuration with more functions defined (earlier, so they are found last) -/
def addH (H : List (String × List Cmd)) (c : Cfg) : Cfg := { c with funs := c.funs ++ H }

theorem stepSimple_addH (H : List (String × List Cmd)) {l : Line} {c c' : Cfg} {o : Out} (h : stepSimple l c = some (o, c')) :
    stepSimple l (addH H c) = some (o, addH H c') := by
  obtain ⟨hf, e, _⟩ := stepSimple_effect l c h
  show _ = some (o, { c' with funs := c'.funs ++ H })
  rw [e]
  exact hf _

theorem lookupFun_append {fs H : List (String × List Cmd)} {name : String} {b : List Cmd} (h : lookupFun fs name = some b) :
    lookupFun (fs ++ H) name = some b := by
  induction fs with
  | nil => simp [lookupFun] at h
  | cons p rest ih =>
    obtain ⟨n, bd⟩ := p
    simp only [lookupFun, List.cons_append] at h ⊢
    split
    · rename_i e; simp only [e, if_true] at h; exact h
    · rename_i e; simp only [e, if_false] at h; exact ih h

theorem callResult_addH (H : List (String × List Cmd)) (c : Cfg) (o1 : Out) (c1 : Cfg) {o : Out} {c' : Cfg}
    (h : callResult c o1 c1 = some (o, c')) : callResult (addH H c) o1 (addH H c1) = some (o, addH H c') := by
  cases o1 <;> simp only [callResult, Option.some.injEq, Prod.mk.injEq] at h ⊢ <;> first | (obtain ⟨rfl, rfl⟩ := h; exact ⟨rfl, rfl⟩) | cases h

theorem exec_addH (H : List (String × List Cmd)) :
    (∀ {x c o c'}, ExecCmd x c o c' → ExecCmd x (addH H c) o (addH H c')) ∧
    (∀ {xs c o c'}, ExecCmds xs c o c' → ExecCmds xs (addH H c) o (addH H c')) ∧
    (∀ {es els c o c'}, ExecElifs es els c o c' → ExecElifs es els (addH H c) o (addH H c')) ∧
    (∀ {body c o c'}, ExecLoop body c o c' → ExecLoop body (addH H c) o (addH H c')) :=
  exec_induct
    (simple := fun hc hstep => ExecCmd.simple hc (stepSimple_addH H hstep))
    (call := fun hl he _ hcr ih => ExecCmd.call (lookupFun_append hl) he ih (callResult_addH H _ _ _ hcr))
    (ifTrue := fun hg _ ih => ExecCmd.ifTrue hg ih)
    (ifFalse := fun hg _ ih => ExecCmd.ifFalse hg ih)
    (loop := fun _ ih => ExecCmd.loop ih)
    (fnDef := ExecCmd.fnDef)
    (nil := ExecCmds.nil)
    (cons := fun _ _ ih1 ih2 => ExecCmds.cons ih1 ih2)
    (stop := fun _ hne ih => ExecCmds.stop ih hne)
    (none := ExecElifs.none)
    (els := fun _ ih => ExecElifs.els ih)
    (hit := fun hg _ ih => ExecElifs.hit hg ih)
    (miss := fun hg _ ih => ExecElifs.miss hg ih)
    (next := fun _ _ ih1 ih2 => ExecLoop.next ih1 ih2)
    (cont := fun _ _ ih1 ih2 => ExecLoop.cont ih1 ih2)
    (brk := fun _ ih => ExecLoop.brk ih)
    (ret := fun _ ih => ExecLoop.ret ih)
    (exit := fun _ ih => ExecLoop.exit ih)

theorem execCmd_addH (H : List (String × List Cmd)) {x : Cmd} {c c' : Cfg} {o : Out} (h : ExecCmd x c o c') :
    ExecCmd x (addH H c) o (addH H c') :=
  (exec_addH H).1 h
theorem execCmds_addH (H : List (String × List Cmd)) {xs : List Cmd} {c c' : Cfg} {o : Out} (h : ExecCmds xs c o c') :
    ExecCmds xs (addH H c) o (addH H c') :=
  (exec_addH H).2.1 h
theorem execElifs_addH (H : List (String × List Cmd)) {es : List (Line × List Cmd)} {els : Option (List Cmd)} {c c' : Cfg} {o : Out}
    (h : ExecElifs es els c o c') : ExecElifs es els (addH H c) o (addH H c') :=
  (exec_addH H).2.2.1 h
theorem execLoop_addH (H : List (String × List Cmd)) {body : List Cmd} {c c' : Cfg} {o : Out} (h : ExecLoop body c o c') :
    ExecLoop body (addH H c) o (addH H c') :=
  (exec_addH H).2.2.2 h

/-- what the frame theorem asks of lines: they assign only names in `P`, call only functions of `D`, define no function, and
    `local` only names in `Q` -/
def SL (P Q : String → Prop) (D : List String) (ls : List Line) : Prop :=
  ∀ l ∈ ls, (∀ x ∈ lineTargets l, P x) ∧ (∀ name args, l = .callFn name args → name ∈ D) ∧ (∀ n, l ≠ .funcStart n) ∧
    (∀ n i, l = .localAssign n i → Q n)

section
variable {P Q : String → Prop} {D : List String} {l : Line} {a b : List Line}

theorem SL.left (h : SL P Q D (a ++ b)) : SL P Q D a := fun l hl => h l (List.mem_append_left _ hl)
theorem SL.right (h : SL P Q D (a ++ b)) : SL P Q D b := fun l hl => h l (List.mem_append_right _ hl)
theorem SL.tail (h : SL P Q D (l :: a)) : SL P Q D a := fun l hl => h l (List.mem_cons_of_mem _ hl)

end

theorem SL.append {P Q : String → Prop} {D : List String} {a b : List Line} (h1 : SL P Q D a) (h2 : SL P Q D b) : SL P Q D (a ++ b) :=
  fun l hl => (List.mem_append.mp hl).elim (h1 l) (h2 l)

theorem SL.mono {P P' Q : String → Prop} {D D' : List String} {ls : List Line} (h : SL P Q D ls) (hp : ∀ x, P x → P' x)
    (hd : ∀ x ∈ D, x ∈ D') : SL P' Q D' ls := by
  intro l hl
  obtain ⟨h1, h2, h3, h4⟩ := h l hl
  exact ⟨fun x hx => hp x (h1 x hx), fun nm ar e => hd nm (h2 nm ar e), h3, h4⟩

/-- every callable function has such a body (each with its own `local` names `Q'`) -/
def TblStatic (P : String → Prop) (D : List String) (funs : List (String × List Cmd)) : Prop :=
  ∀ name ∈ D, ∃ body Q', lookupFun funs name = some body ∧ SL P Q' D (flats body) ∧ ∀ n, Q' n → P n

/-- what a run of such lines leaves: variables outside `P` and the table as they were, only names in `Q` on the save stack -/
structure Framed (P Q : String → Prop) (o : Out) (m m' : Cfg) : Prop where
  rho : ∀ x, ¬ P x → m'.ρ x = m.ρ x
  funs : m'.funs = m.funs
  saved : (∀ k, o ≠ .exit k) → (∀ p ∈ m.saved, Q p.1) → ∀ p ∈ m'.saved, Q p.1

theorem Framed.refl (P Q : String → Prop) (o : Out) (m : Cfg) : Framed P Q o m m := ⟨fun _ _ => rfl, rfl, fun _ h => h⟩
theorem Framed.trans {P Q : String → Prop} {o1 o : Out} {a b c : Cfg} (h1 : Framed P Q o1 a b) (hne : ∀ k, o1 ≠ .exit k) (h2 : Framed P Q o b c) :
    Framed P Q o a c :=
  ⟨fun x hx => by rw [h2.rho x hx, h1.rho x hx], h2.funs.trans h1.funs, fun ho h => h2.saved ho (h1.saved hne h)⟩

theorem Framed.cast {P Q : String → Prop} {o1 o2 : Out} {a b : Cfg} (h : Framed P Q o1 a b) (hne : ∀ k, o1 ≠ .exit k) : Framed P Q o2 a b :=
  ⟨h.rho, h.funs, fun _ hs => h.saved hne hs⟩

theorem step_framed {P Q : String → Prop} {l : Line} {m m' : Cfg} {o : Out} (h : stepSimple l m = some (o, m'))
    (ht : ∀ x ∈ lineTargets l, P x) (hq : ∀ n i, l = .localAssign n i → Q n) : Framed P Q o m m' := by
  obtain ⟨_, hf, hρ, hs⟩ := stepSimple_effect l m h
  refine ⟨fun x hx => hρ x (fun hm => hx (ht x hm)), hf, fun _ hsv p hp => ?_⟩
  rcases hs with e | ⟨n, i, rfl, e⟩
  · exact hsv p (e ▸ hp)
  · rw [e] at hp
    rcases List.mem_cons.mp hp with rfl | hp
    · exact hq n i rfl
    · exact hsv p hp

/-- `Q` varies: a callee has `local` names of its own -/
theorem exec_frame {P : String → Prop} {D : List String} :
    (∀ {x m o m'}, ExecCmd x m o m' → ∀ {Q}, SL P Q D (flat x) → TblStatic P D m.funs → Framed P Q o m m') ∧
    (∀ {xs m o m'}, ExecCmds xs m o m' → ∀ {Q}, SL P Q D (flats xs) → TblStatic P D m.funs → Framed P Q o m m') ∧
    (∀ {es els m o m'}, ExecElifs es els m o m' → ∀ {Q}, SL P Q D (flatElifs es ++ flatElse els) → TblStatic P D m.funs →
      Framed P Q o m m') ∧
    (∀ {body m o m'}, ExecLoop body m o m' → ∀ {Q}, SL P Q D (flats body) → TblStatic P D m.funs → Framed P Q o m m') := by
  refine exec_induct ?simple ?call ?ifTrue ?ifFalse ?loop ?fnDef ?nil ?cons ?stop ?none ?els ?hit ?miss ?next ?cont ?brk ?ret ?exit
  case simple =>
    intro l m o m' _ hstep Q hs _
    exact step_framed hstep (hs l (List.mem_singleton_self l)).1 (hs l (List.mem_singleton_self l)).2.2.2
  case call =>
    intro name args m body vals o1 c1 o m' hl _ _ hcr ih Q hs ht
    obtain ⟨body', Q', hl', hsb, hqp⟩ := ht name ((hs _ (List.mem_singleton_self _)).2.1 name args rfl)
    obtain rfl : body = body' := Option.some.inj (hl.symm.trans hl')
    have fb := ih hsb ht
    have hsv := fun hne => fb.saved hne (fun p hp => nomatch hp)
    -- what `restore` undoes are `local` names of the callee, which are in `P`
    have hrho : (∀ k, o1 ≠ .exit k) → ∀ x, ¬ P x → restore c1.saved c1.ρ x = m.ρ x := fun hne x hx => by
      rw [restore_other _ _ _ (fun p hp e => hx (by rw [← e]; exact hqp _ (hsv hne p hp)))]
      exact fb.rho x hx
    cases o1 with
    | normal | ret => cases hcr; exact ⟨hrho nofun, fb.funs, fun _ hm => hm⟩
    | exit k => cases hcr; exact ⟨fb.rho, fb.funs, fun hne => absurd rfl (hne k)⟩
    | brk | cont => cases hcr
  case ifTrue => exact fun _ _ ih _ hs ht => ih hs.tail.left ht
  case ifFalse => exact fun _ _ ih _ hs ht => ih (hs.tail.right.left.append hs.tail.right.right.left) ht
  case loop => exact fun _ ih _ hs ht => ih hs.tail.left ht
  case fnDef =>
    intro name body m Q hs _
    exact absurd rfl ((hs (.funcStart name) (List.mem_cons_self ..)).2.2.1 name)
  case nil | none => exact fun _ _ => Framed.refl _ _ _ _
  case cons =>
    intro x xs m m1 o m' _ _ ih1 ih2 Q hs ht
    have f1 := ih1 hs.left ht
    exact f1.trans nofun (ih2 hs.right (by rw [f1.funs]; exact ht))
  case stop => exact fun _ _ ih _ hs ht => ih hs.left ht
  case els => exact fun _ ih _ hs ht => ih hs.tail ht
  case hit => exact fun _ _ ih _ hs ht => ih hs.left.tail.left ht
  case miss => exact fun _ _ ih _ hs ht => ih (hs.left.tail.right.append hs.right) ht
  case next | cont =>
    intro body m m1 o m' _ _ ih1 ih2 Q hs ht
    have f1 := ih1 hs ht
    exact f1.trans nofun (ih2 hs (by rw [f1.funs]; exact ht))
  case brk => exact fun _ ih _ hs ht => (ih hs ht).cast nofun
  case ret | exit => exact fun _ ih _ hs ht => ih hs ht

theorem execCmds_frame {P Q : String → Prop} {D : List String} {xs : List Cmd} {m m' : Cfg} {o : Out} (h : ExecCmds xs m o m')
    (hs : SL P Q D (flats xs)) (ht : TblStatic P D m.funs) : Framed P Q o m m' :=
  exec_frame.2.1 h hs ht
theorem execElifs_frame {P Q : String → Prop} {D : List String} {es : List (Line × List Cmd)} {els : Option (List Cmd)} {m m' : Cfg} {o : Out}
    (h : ExecElifs es els m o m') (hs : SL P Q D (flatElifs es ++ flatElse els)) (ht : TblStatic P D m.funs) : Framed P Q o m m' :=
  exec_frame.2.2.1 h hs ht
theorem execLoop_frame {P Q : String → Prop} {D : List String} {body : List Cmd} {m m' : Cfg} {o : Out}
    (h : ExecLoop body m o m') (hs : SL P Q D (flats body)) (ht : TblStatic P D m.funs) : Framed P Q o m m' :=
  exec_frame.2.2.2 h hs ht

end Tsh.Sem2
