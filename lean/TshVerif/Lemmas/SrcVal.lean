/-
  `logVal`: `&&` and `||` on the values of the source semantics.  `Sem/Src` has no name for it; the three source interpreters
  (`Sem/Src`, `Sem/Src32`, `Sem2/Src`) compute it inline.
-/
import TshVerif.Sem.Src
namespace Tsh.Sem
open Tsh

/-- `&&` and `||` on values, as the source semantics computes them -/
def logVal (op : String) : Src.Val → Src.Val → Option Src.Val
  | .bool p, .bool q => if op == "&&" then some (.bool (p && q)) else if op == "||" then some (.bool (p || q)) else none
  | _, _ => none

theorem logVal_some {op : String} {a b v : Src.Val} (h : logVal op a b = some v) :
    ∃ x y, a = .bool x ∧ b = .bool y ∧
      (if op == "&&" then some (Src.Val.bool (x && y)) else if op == "||" then some (.bool (x || y)) else none) = some v := by
  unfold logVal at h
  split at h
  · exact ⟨_, _, rfl, rfl, h⟩
  · cases h

end Tsh.Sem
