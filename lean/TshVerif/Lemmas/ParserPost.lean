/-
  A small postcondition calculus for the parser monad `PM`, one rule per idiom of parser.go: `PostOk m Q` = every successful
  run of `m` returns a value with `Q` (the parser state plays no role in the typing facts: contexts are passed explicitly);
  `Post m Q` = moreover no run of `m` ends in `panic`, which stands where the Go code would index out of range or dereference nil.
-/
import TshVerif.Model.Parser
namespace Tsh.Parser

structure Post {α : Type} (m : PM α) (Q : α → Prop) : Prop where
  ok : ∀ s a s', m s = .ok a s' → Q a
  np : ∀ s, m s ≠ .panic

def PostOk {α : Type} (m : PM α) (Q : α → Prop) : Prop := ∀ s a s', m s = .ok a s' → Q a

theorem bind_ok {α β : Type} {x : PM α} {f : α → PM β} {s s'' : PSt} {b : β}
    (h : (x >>= f) s = .ok b s'') : ∃ a s', x s = .ok a s' ∧ f a s' = .ok b s'' := by
  simp only [bind] at h
  split at h
  · exact ⟨_, _, ‹_›, h⟩
  all_goals cases h

namespace PostOk
variable {α β : Type} {Q : α → Prop}
theorem of {m : PM α} (h : Post m Q) : PostOk m Q := h.ok
theorem pure' {a : α} (h : Q a) : PostOk (pure a : PM α) Q := fun _ _ _ hb => (PRes.ok.inj hb).1 ▸ h
theorem err : PostOk (Parser.err : PM α) Q := fun _ _ _ h => nomatch h
theorem pan : PostOk (Parser.pan : PM α) Q := fun _ _ _ h => nomatch h
theorem div : PostOk (Parser.div : PM α) Q := fun _ _ _ h => nomatch h
theorem bind' {m : PM α} {f : α → PM β} {P : α → Prop} {R : β → Prop}
    (hm : PostOk m P) (hf : ∀ a, P a → PostOk (f a) R) : PostOk (m >>= f) R := fun _ _ _ h =>
  let ⟨a, _, h1, h2⟩ := bind_ok h
  hf a (hm _ _ _ h1) _ _ _ h2
theorem bindAny {m : PM α} {f : α → PM β} {R : β → Prop} (hf : ∀ a, PostOk (f a) R) : PostOk (m >>= f) R :=
  bind' (P := fun _ => True) (fun _ _ _ _ => trivial) (fun a _ => hf a)
theorem errBind {f : α → PM β} {R : β → Prop} : PostOk ((Parser.err : PM α) >>= f) R :=
  bind' (P := fun _ => False) err (fun _ h => h.elim)
theorem ite' {c : Prop} [Decidable c] {t e : PM α} (ht : c → PostOk t Q) (he : ¬c → PostOk e Q) :
    PostOk (if c then t else e) Q := by
  split
  · exact ht ‹_›
  · exact he ‹_›
theorem guard {c : Prop} [Decidable c] {k : PM α} (h : ¬c → PostOk k Q) : PostOk (if c then Parser.err else k) Q :=
  ite' (fun _ => err) h
theorem expect {T : Nat} {k : Tok → PM β} {R : β → Prop} (h : ∀ t, t.ty = T → PostOk (k t) R) :
    PostOk (Parser.eat >>= fun t => if (t.ty != T) = true then Parser.err else k t) R :=
  bindAny fun t => guard fun hne => h t (by simpa using hne)
theorem branch {c : Prop} [Decidable c] {t e : PM α} (ht : PostOk t Q) (he : PostOk e Q) : PostOk (if c then t else e) Q :=
  ite' (fun _ => ht) (fun _ => he)
theorem mono {m : PM α} {P : α → Prop} (h : PostOk m P) (hpq : ∀ a, P a → Q a) : PostOk m Q :=
  fun s a s' hm => hpq a (h s a s' hm)
theorem and {m : PM α} {P : α → Prop} (h1 : PostOk m P) (h2 : PostOk m Q) : PostOk m (fun a => P a ∧ Q a) :=
  fun s a s' hm => ⟨h1 s a s' hm, h2 s a s' hm⟩
theorem ofOpt {o : Option α} (h : ∀ a, o = some a → Q a) : PostOk (Parser.ofOpt o) Q := by
  cases o with
  | none => exact err
  | some a => exact pure' (h a rfl)
end PostOk

namespace Post
variable {α β : Type} {Q : α → Prop}

theorem pure' {a : α} (h : Q a) : Post (pure a : PM α) Q := ⟨PostOk.pure' h, fun _ h => nomatch h⟩
theorem err : Post (Parser.err : PM α) Q := ⟨PostOk.err, fun _ h => nomatch h⟩
theorem div : Post (Parser.div : PM α) Q := ⟨PostOk.div, fun _ h => nomatch h⟩

theorem unreachable {m : PM α} (h : False) : Post m Q := h.elim

theorem bind' {m : PM α} {f : α → PM β} {P : α → Prop} {R : β → Prop}
    (hm : Post m P) (hf : ∀ a, P a → Post (f a) R) : Post (m >>= f) R := by
  refine ⟨PostOk.bind' hm.ok fun a h => (hf a h).ok, fun s h => ?_⟩
  simp only [bind] at h
  split at h
  · exact (hf _ (hm.ok _ _ _ ‹_›)).np _ h
  · cases h
  · exact hm.np s ‹_›
  · cases h

theorem errBind {f : α → PM β} {R : β → Prop} : Post ((Parser.err : PM α) >>= f) R :=
  bind' (P := fun _ => False) err (fun _ h => h.elim)

theorem prim {m : PM α} (h : ∀ s, ∃ a s', m s = .ok a s') : Post m (fun _ => True) :=
  ⟨fun _ _ _ _ => trivial, by intro s hp; obtain ⟨a, s', e⟩ := h s; rw [e] at hp; cases hp⟩

theorem eat : Post Parser.eat (fun _ => True) := prim fun _ => ⟨_, _, rfl⟩
theorem findAllowed (a : Nat) (l : List Nat) : Post (Parser.findAllowed a l) (fun _ => True) := prim fun _ => ⟨_, _, rfl⟩
theorem findBefore (a : Nat) (l : List Nat) : Post (Parser.findBefore a l) (fun _ => True) := prim fun _ => ⟨_, _, rfl⟩
theorem isShortVarInit : Post Parser.isShortVarInit (fun _ => True) := prim fun _ => ⟨_, _, rfl⟩

theorem ite' {c : Prop} [Decidable c] {t e : PM α} (ht : c → Post t Q) (he : ¬c → Post e Q) :
    Post (if c then t else e) Q := by
  split
  · exact ht ‹_›
  · exact he ‹_›

theorem mono {m : PM α} {P : α → Prop} (h : Post m P) (hpq : ∀ a, P a → Q a) : Post m Q :=
  ⟨PostOk.mono h.ok hpq, h.np⟩

theorem and {m : PM α} {P : α → Prop} (h1 : Post m P) (h2 : Post m Q) : Post m (fun a => P a ∧ Q a) :=
  ⟨PostOk.and h1.ok h2.ok, h1.np⟩

theorem ofOpt {o : Option α} (h : ∀ a, o = some a → Q a) : Post (Parser.ofOpt o) Q := by
  cases o with
  | none => exact err
  | some a => exact pure' (h a rfl)

theorem ofOptAny {o : Option α} : Post (Parser.ofOpt o) (fun _ => True) := ofOpt fun _ _ => trivial

/-- by default the first computation is a primitive (`prim`); anything else is given as `hm` -/
theorem bindAny {m : PM α} {f : α → PM β} {R : β → Prop} (hf : ∀ a, Post (f a) R)
    (hm : Post m (fun _ => True) := by exact Post.prim fun _ => ⟨_, _, rfl⟩) : Post (m >>= f) R :=
  bind' hm (fun a _ => hf a)

theorem guard {c : Prop} [Decidable c] {k : PM α} {Q : α → Prop} (h : ¬c → Post k Q) :
    Post (if c then Parser.err else k) Q :=
  ite' (fun _ => err) h

theorem expect {T : Nat} {k : Tok → PM β} {R : β → Prop} (h : ∀ t, t.ty = T → Post (k t) R) :
    Post (Parser.eat >>= fun t => if (t.ty != T) = true then Parser.err else k t) R :=
  bindAny (hm := eat) fun t => guard fun hne => h t (by simpa using hne)

theorem branch {c : Prop} [Decidable c] {t e : PM α} {Q : α → Prop} (ht : Post t Q) (he : Post e Q) :
    Post (if c then t else e) Q :=
  ite' (fun _ => ht) (fun _ => he)

/-- `if !cond { return err }`: the check is handed on in positive form -/
theorem «unless» {b : Bool} {k : PM α} {Q : α → Prop} (h : b = true → Post k Q) :
    Post (if (!b) = true then Parser.err else k) Q :=
  guard fun hn => h (by simpa using hn)
end Post

/-- `Post`, of one run -/
def Good {α : Type} (r : PRes α) (Q : α → Prop) : Prop :=
  match r with
  | .ok a _ => Q a
  | .panic => False
  | _ => True

theorem Post.good {α : Type} {m : PM α} {Q : α → Prop} (h : Post m Q) (s : PSt) : Good (m s) Q := by
  unfold Good
  split
  · rename_i a s' he; exact h.ok s a s' he
  · rename_i he; exact h.np s he
  · trivial

theorem Good.ok {α : Type} {r : PRes α} {Q : α → Prop} (h : Good r Q) {a : α} {s : PSt} (he : r = .ok a s) : Q a := by
  subst he; exact h

theorem Good.np {α : Type} {r : PRes α} {Q : α → Prop} (h : Good r Q) : r ≠ .panic := by
  intro he; subst he; exact h

theorem Good.elim {α β : Type} {r : PRes α} {P : α → Prop} (h : Good r P) {f : PRes α → PRes β} {Q : β → Prop}
    (ok : ∀ a s, P a → Good (f (.ok a s)) Q) (err : Good (f .error) Q := by trivial)
    (div : Good (f .diverge) Q := by trivial) : Good (f r) Q := by
  cases r with
  | ok a s => exact ok a s h
  | error => exact err
  | panic => exact False.elim h
  | diverge => exact div

theorem Good.ite {α : Type} {c : Prop} [Decidable c] {a b : PRes α} {Q : α → Prop} (ha : c → Good a Q) (hb : ¬c → Good b Q) :
    Good (if c then a else b) Q := by
  split
  · exact ha ‹_›
  · exact hb ‹_›

/-- some run of `m` returns `a`: what a run record (Lemmas/ParserStmtRuns) keeps of a part -/
def Ran {α : Type} (m : PM α) (a : α) : Prop := ∃ s s', m s = .ok a s'

theorem Ran.elim {α : Type} {m : PM α} {a : α} {Q : α → Prop} (h : Ran m a) (hm : PostOk m Q) : Q a := by
  obtain ⟨s, s', e⟩ := h
  exact hm s a s' e

theorem Post.ran {α : Type} {m : PM α} {Q : α → Prop} (h : Post m Q) : Post m (fun a => Ran m a ∧ Q a) :=
  ⟨fun s a s' e => ⟨⟨s, s', e⟩, h.ok s a s' e⟩, h.np⟩

/-- goal `Post (have x := v; body) Q`  ⟶  `x := v` in the context, goal `Post body Q`: for a `let` that should not be copied into the
    goal and for the join points of `do` blocks (the continuation after an `if`, proved once) -/
macro "pm_let " x:ident : tactic => `(tactic| extract_lets +onlyGivenNames -underBinder $x:ident)

/-- inline the outermost `have x := v` of the computation -/
macro "pm_zeta" : tactic => `(tactic| (extract_lets +onlyGivenNames -underBinder _x; subst _x))

end Tsh.Parser
