/-
  Base of the semantic proof with functions: the converter's state between two points (`reqSt`, `adv3_comp`); agreement of
  source and shell configuration (`HeapOK`, `AgreeF`) and the store updates it survives; operand texts that stay valid
  (`HoldsF`); `Computes` as a step of this model.
-/
import TshVerif.Sem2.Src
import TshVerif.Lemmas.Sem2Names
import TshVerif.Lemmas.Sem2Model
namespace Tsh.Sem2
open Tsh Tsh.Tr Tsh.Bash Tsh.Sem Tsh.Sem2.Src
open Tsh.Sem.Src (Val Env)

/-- which helper routines the script has to contain (`_sah`, `_sch`, `_ssh`): the three flags of the converter -/
structure Req where
  sah : Bool
  sch : Bool
  ssh : Bool

def Req.none : Req := ⟨false, false, false⟩
def Req.or (a b : Req) : Req := ⟨a.sah || b.sah, a.sch || b.sch, a.ssh || b.ssh⟩

theorem Req.or_none (a : Req) : a.or Req.none = a := by cases a; simp [Req.or, Req.none]
theorem Req.none_or (a : Req) : Req.none.or a = a := by cases a; simp [Req.or, Req.none]

def reqSt (s : St) (r : Req) : St :=
  { s with sahReq := s.sahReq || r.sah, schReq := s.schReq || r.sch, sshReq := s.sshReq || r.ssh }

theorem reqSt_none (s : St) : reqSt s Req.none = s := by cases s; simp [reqSt, Req.none]
theorem ctxOf_reqSt (s : St) (r : Req) : ctxOf (reqSt s r) = ctxOf s := rfl

theorem adv3_comp (s : St) (a b : List Line) (n1 m1 f1 n2 m2 f2 : Nat) (r1 r2 : Req) :
    reqSt (adv3 (reqSt (adv3 s a n1 m1 f1) r1) b n2 m2 f2) r2 = reqSt (adv3 s (b ++ a) (n1 + n2) (m1 + m2) (f1 + f2)) (r1.or r2) := by
  simp [adv3, reqSt, Req.or, Bool.or_assoc, Nat.add_assoc]

/-- the text of the slice counter `_dvc` after `n` allocations -/
def dvcStr (n : Nat) : String := if n = 0 then "" else toString n

/-- slice storage in step: `_dvc` spells the number of slices allocated; array `_dv<id>` holds the rendered elements of slice
    `id`; numbers not yet allocated have no elements (a new slice starts from the empty array) -/
structure HeapOK (c : SCfg) (m : Cfg) : Prop where
  dvc : m.ρ "_dvc" = dvcStr c.next
  heap : ∀ id, m.arr (Sem.Src.sliceName id) = (c.heap id).map Val.render
  fresh : ∀ id, c.next < id → c.heap id = []

theorem special_ne_dvc_of_not {y : String} (h : isSpecial y = false) : y ≠ "_dvc" := by
  intro e; subst e; simp [isSpecial] at h

/-- source configuration and shell configuration agree: same output so far, every global variable under its own
    name, every local variable of the running function under its prefixed name -/
structure AgreeF (ctx : Ctx) (c : SCfg) (m : Cfg) : Prop where
  inFn : c.inFn = ctx.inFn
  out : c.out = m.out
  glob : ∀ x v, c.genv x = some v → goodName2 x = true ∧ m.ρ x = v.render
  loc : ctx.inFn = true → ∀ x v, c.lenv x = some v → goodName2 x = true ∧ m.ρ (fnPrefix ctx.k ++ x) = v.render
  hp : HeapOK c m

section
variable {ctx : Ctx} {c : SCfg} {m : Cfg}

theorem AgreeF.read (h : AgreeF ctx c m) {x : Var} {v : Val} (hv : readVar c x = some v) :
    goodName2 x.name = true ∧ m.ρ (ctx.mg x.name x.global) = v.render := by
  simp only [readVar, h.inFn] at hv
  simp only [Ctx.mg]
  by_cases h1 : (ctx.inFn && !x.global) = true
  · simp only [h1, if_true] at hv ⊢
    have : ctx.inFn = true := by simp only [Bool.and_eq_true] at h1; exact h1.1
    exact h.loc this _ _ hv
  · simp only [h1] at hv ⊢
    exact h.glob _ _ hv

theorem AgreeF.set_other (h : AgreeF ctx c m) (y w : String)
    (hy : ∀ x g, goodName2 x = true → ctx.mg x g ≠ y) (hd : y ≠ "_dvc") : AgreeF ctx c { m with ρ := m.ρ.set y w } := by
  refine ⟨h.inFn, h.out, fun x v hx => ?_, fun hin x v hx => ?_,
    (m.rho_set_other y _ w (fun e => hd e.symm)).trans h.hp.dvc, h.hp.heap, h.hp.fresh⟩
  · obtain ⟨hg, hv⟩ := h.glob x v hx
    have := hy x true hg
    simp only [Ctx.mg, Bool.not_true, Bool.and_false, Bool.false_eq_true, if_false] at this
    exact ⟨hg, (m.rho_set_other y _ w this).trans hv⟩
  · obtain ⟨hg, hv⟩ := h.loc hin x v hx
    have := hy x false hg
    simp only [Ctx.mg, hin, Bool.not_false, Bool.and_self, if_true] at this
    exact ⟨hg, (m.rho_set_other y _ w this).trans hv⟩

theorem AgreeF.write (h : AgreeF ctx c m) (x : Var) (v : Val) (hx : goodName2 x.name = true) :
    AgreeF ctx (writeVar c x v) { m with ρ := m.ρ.set (ctx.mg x.name x.global) v.render } := by
  simp only [writeVar, h.inFn, Ctx.mg]
  by_cases h1 : (ctx.inFn && !x.global) = true
  · have hin : ctx.inFn = true := by simp only [Bool.and_eq_true] at h1; exact h1.1
    simp only [h1, if_true]
    refine ⟨by simp, h.out, fun y w hy => ?_, fun _ y w hy => ?_, ⟨?_, h.hp.heap, h.hp.fresh⟩⟩
    · obtain ⟨hg, hw⟩ := h.glob y w hy
      exact ⟨hg, (m.rho_set_other _ _ _ (good2_ne_prefixed y _ _ hg)).trans hw⟩
    · by_cases e : y = x.name
      · subst e
        simp only [Sem.Src.Env.set, if_true, Option.some.injEq] at hy
        subst hy
        exact ⟨hx, m.rho_set_same _ _⟩
      · simp only [Sem.Src.Env.set, e, if_false] at hy
        obtain ⟨hg, hw⟩ := h.loc hin y w hy
        exact ⟨hg, (m.rho_set_other _ _ _ (fun e' => e (fnPrefix_inj e').2)).trans hw⟩
    · exact (m.rho_set_other _ _ _ (special_ne_prefixed (x := "_dvc") (by decide) _ _)).trans h.hp.dvc
  · have h1' : (ctx.inFn && !x.global) = false := by simpa using h1
    simp only [h1', Bool.false_eq_true, if_false]
    refine ⟨by simp, h.out, fun y w hy => ?_, fun hin y w hy => ?_, ⟨?_, h.hp.heap, h.hp.fresh⟩⟩
    · by_cases e : y = x.name
      · subst e
        simp only [Sem.Src.Env.set, if_true, Option.some.injEq] at hy
        subst hy
        exact ⟨hx, m.rho_set_same _ _⟩
      · simp only [Sem.Src.Env.set, e, if_false] at hy
        obtain ⟨hg, hw⟩ := h.glob y w hy
        exact ⟨hg, (m.rho_set_other _ _ _ e).trans hw⟩
    · obtain ⟨hg, hw⟩ := h.loc hin y w hy
      exact ⟨hg, (m.rho_set_other _ _ _ (fun e' => good2_ne_prefixed x.name _ _ hx e'.symm)).trans hw⟩
    · exact (m.rho_set_other _ _ _ (fun e => good_ne_special (good2_good hx) (by rw [← e]; decide))).trans h.hp.dvc

end

/-- `t` reads as the value of operand `o` now and in every later configuration that agrees with the source and still
    has the helper variables below `n` -/
def HoldsF (ctx : Ctx) (t : String) (o : Opd) (n : Nat) (ρ0 : Store) : Prop :=
  ∀ c' m', AgreeF ctx c' m' → (∀ j, j < n → m'.ρ (ctx.hn j) = ρ0 (ctx.hn j)) →
    ∀ v, resolve c' o = some v → Complete m'.ρ t.toList v.render.toList

def HoldsAllF (ctx : Ctx) : List String → List Opd → Nat → Store → Prop
  | [], [], _, _ => True
  | t :: ts, o :: os, n, ρ => HoldsF ctx t o n ρ ∧ HoldsAllF ctx ts os n ρ
  | _, _, _, _ => False

theorem HoldsF.mono {ctx : Ctx} {t : String} {o : Opd} {n n' : Nat} {ρ ρ' : Store} (h : HoldsF ctx t o n ρ) (hn : n ≤ n')
    (hρ : ∀ j, j < n → ρ' (ctx.hn j) = ρ (ctx.hn j)) : HoldsF ctx t o n' ρ' := by
  intro c' m' ha hk v hv
  exact h c' m' ha (fun j hj => by rw [hk j (by omega), hρ j hj]) v hv

theorem HoldsAllF.mono {ctx : Ctx} : ∀ {ts : List String} {os : List Opd} {n n' : Nat} {ρ ρ' : Store}, HoldsAllF ctx ts os n ρ → n ≤ n' →
    (∀ j, j < n → ρ' (ctx.hn j) = ρ (ctx.hn j)) → HoldsAllF ctx ts os n' ρ'
  | [], [], _, _, _, _, _, _, _ => trivial
  | _ :: _, _ :: _, _, _, _, _, h, hn, hρ => ⟨h.1.mono hn hρ, HoldsAllF.mono h.2 hn hρ⟩
  | [], _ :: _, _, _, _, _, h, _, _ => h.elim
  | _ :: _, [], _, _, _, _, h, _, _ => h.elim

theorem HoldsAllF.length {ctx : Ctx} : ∀ {ts : List String} {os : List Opd} {n : Nat} {ρ : Store}, HoldsAllF ctx ts os n ρ → ts.length = os.length
  | [], [], _, _, _ => rfl
  | _ :: _, _ :: _, _, _, h => by simp [HoldsAllF.length h.2]
  | [], _ :: _, _, _, h => h.elim
  | _ :: _, [], _, _, h => h.elim

theorem HoldsAllF.first {ctx : Ctx} {ts : List String} {o : Opd} {n : Nat} {ρ : Store} (h : HoldsAllF ctx ts [o] n ρ) :
    HoldsF ctx (firstValue ts) o n ρ :=
  match ts, h with
  | [_], h => h.1
  | [], h => h.elim
  | _ :: _ :: _, h => h.2.elim

theorem holdsF_text (ctx : Ctx) (t : String) (v : Val) (n : Nat) (ρ0 : Store)
    (h : ∀ ρ : Store, Complete ρ t.toList v.render.toList) : HoldsF ctx t (.lit v) n ρ0 := by
  intro c' m' _ _ w hw
  simp only [resolve, Option.some.injEq] at hw
  subst hw
  exact h m'.ρ

theorem holdsF_var (ctx : Ctx) (x : Var) (n : Nat) (ρ0 : Store) :
    HoldsF ctx ("${" ++ ctx.mg x.name x.global ++ "}") (.var x) n ρ0 := by
  intro c' m' ha _ v hv
  simp only [resolve] at hv
  obtain ⟨hg, hr⟩ := ha.read hv
  rw [← hr]
  exact complete_var m'.ρ _ (ctx.mg_valid _ _ hg)

theorem holdsF_helper (ctx : Ctx) (j : Nat) (v : Val) (ρ0 : Store) (h : ρ0 (ctx.hn j) = v.render) :
    HoldsF ctx ("${" ++ ctx.hn j ++ "}") (.lit v) (j + 1) ρ0 := by
  intro c' m' _ hk w hw
  simp only [resolve, Option.some.injEq] at hw
  subst hw
  rw [← h, ← hk j (by omega)]
  exact complete_var m'.ρ _ (ctx.hn_valid j)

section
variable {ctx : Ctx} {t : String} {o : Opd} {n : Nat} {c : SCfg} {m : Cfg}

theorem holdsF_itoa {ρ0 : Store} (h : HoldsF ctx t o n ρ0) : HoldsF ctx t (.itoa o) n ρ0 := by
  intro c' m' ha hk v hv
  simp only [resolve] at hv
  split at hv
  · rename_i k hk'
    simp only [Option.some.injEq] at hv
    subst hv
    exact h c' m' ha hk (.int k) hk'
  · simp at hv

theorem HoldsF.complete {v : Val} (h : HoldsF ctx t o n m.ρ)
    (ha : AgreeF ctx c m) (hv : resolve c o = some v) : Complete m.ρ t.toList v.render.toList :=
  h c m ha (fun _ _ => rfl) v hv

theorem HoldsF.expand {ctx : Ctx} {t : String} {o : Opd} {n : Nat} {c : SCfg} {m : Cfg} {v : Val} (h : HoldsF ctx t o n m.ρ)
    (ha : AgreeF ctx c m) (hv : resolve c o = some v) : Sem.expand m.ρ t = some v.render :=
  (h.complete ha hv).toExpand

theorem HoldsF.expandInt {k : Int} (h : HoldsF ctx t o n m.ρ)
    (ha : AgreeF ctx c m) (hv : resolve c o = some (.int k)) : Sem.expandInt m.ρ t = some k :=
  expandInt_int (h.expand ha hv)

theorem HoldsF.expandBool {b : Bool} (h : HoldsF ctx t o n m.ρ)
    (ha : AgreeF ctx c m) (hv : resolve c o = some (.bool b)) : Sem.expandInt m.ρ t = some (if b then 1 else 0) :=
  expandInt_bool (h.expand ha hv)

end

theorem _root_.Tsh.Sem.Computes.step2 {m : Cfg} {line : Line} {h v : String} (hc : Computes m.ρ line h v) :
    stepSimple line m = some (.normal, { m with ρ := m.ρ.set h v }) := by
  cases hc with
  | assign e => simp only [stepSimple, e]
  | arith ea eb ex => simp only [stepSimple, ea, eb, ex]
  | test hb ez => simp only [stepSimple, hb, ez, if_true]

theorem step2_assign {t v : String} (m : Cfg) (x : String) (h : expand m.ρ t = some v) :
    stepSimple (.assign x t) m = some (.normal, { m with ρ := m.ρ.set x v }) :=
  (Computes.assign h).step2

end Tsh.Sem2
