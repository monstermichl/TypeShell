/-
  The typed pass on statements, an instance of the statement walk: `typedSRule` says of every rule why the statement built is
  typed under the checks the parser made; the function definition and the loop are read off their run records.
-/
import TshVerif.Lemmas.ParserTypedSimple
namespace Tsh.Parser
open Tsh Tsh.Tr Tsh.LexTables

theorem stmtsP_iff {ss : List Stmt} : stmtsP ss ↔ ∀ s ∈ ss, stmtP s := by
  induction ss with
  | nil => simp [stmtsP, PT.stmts]
  | cons x xs ih => simp only [stmtsP, stmtP, PT.stmts, Bool.and_eq_true, List.forall_mem_cons] at ih ⊢; rw [ih]

theorem stmts_append {a b : List Stmt} (ha : stmtsP a) (hb : stmtsP b) : stmtsP (a ++ b) :=
  stmtsP_iff.mpr fun s hs => (List.mem_append.mp hs).elim (stmtsP_iff.mp ha s) (stmtsP_iff.mp hb s)

theorem stmts_snoc {a : List Stmt} {s : Stmt} (ha : stmtsP a) (hs : stmtP s) : stmtsP (a ++ [s]) :=
  stmts_append ha (by simp [stmtsP, PT.stmts, hs.out])

theorem elifs_snoc {a : List (Expr × List Stmt)} {c : Expr} {b : List Stmt} (ha : elifsP a) (hc : condP c) (hb : stmtsP b) :
    elifsP (a ++ [(c, b)]) := by
  induction a with
  | nil => simp [elifsP, PT.elifs_, hc.1.out, hc.2, hb.out]
  | cons x xs ih =>
    obtain ⟨e, body⟩ := x
    simp only [elifsP, PT.elifs_, Bool.and_eq_true] at ha
    simp only [elifsP, List.cons_append, PT.elifs_, Bool.and_eq_true]
    exact ⟨ha.1, ih ha.2⟩

theorem tag_compare {tag e : Expr} (ht : tagP tag) (he : exprP e) (heq : (Expr.valueType tag).equals (Expr.valueType e) = true) :
    condP (.compare "==" tag e) := by
  obtain ⟨h1, h2, h3, h4⟩ := ht
  have hk := expr_known tag h1
  refine ⟨?_, rfl⟩
  simp only [exprP, PT.expr, h1.out, he.out, heq, Bool.true_and]
  generalize Expr.valueType tag = vt at *
  obtain ⟨dt, sl⟩ := vt
  cases sl
  · cases dt with
    | unknown => exact absurd rfl h3
    | multiple => exact absurd rfl h4
    | other s => cases hk
    | _ => rfl
  · cases h2

/-- the element that the generated body of `for i, v := range x` assigns to `v` -/
theorem rangeElem_ok {iterable el : Expr} (hit : exprP iterable) {idx : Var} (hidx : idx.vt = vtInt)
    (hel : (el = .sliceEval iterable (.varEval idx) (Expr.valueType iterable).dt ∧ (Expr.valueType iterable).isSlice = true) ∨
      (el = .substr iterable (.varEval idx) none ∧ (Expr.valueType iterable).isString = true)) :
    PT.vals1 [el] = true ∧ ((⟨(Expr.valueType iterable).dt, false⟩ : ValueType).equals (Expr.valueType el)) = true ∧
      ((Expr.valueType iterable).isString || (Expr.valueType iterable).isSlice) = true := by
  rcases hel with ⟨rfl, hsl⟩ | ⟨rfl, hstr⟩
  · have hb := known_slice_basic (expr_known iterable hit) hsl
    refine ⟨vals1_cons.mpr ⟨?_, rfl, hasValue_of_basic hb, rfl⟩, equals_refl _, by simp [hsl]⟩
    simp [PT.expr, hit.out, hsl, Expr.valueType, hidx, vtInt, ValueType.isInt, PT.known]
  · have hd : (Expr.valueType iterable).dt = .string := by
      have := hstr; simp only [ValueType.isString, Bool.and_eq_true, beq_iff_eq] at this; exact this.1
    refine ⟨vals1_cons.mpr ⟨?_, rfl, rfl, rfl⟩, by simp [ValueType.equals, Expr.valueType, hd], by simp [hstr]⟩
    simp [PT.expr, hit.out, hstr, Expr.valueType, hidx, vtInt, ValueType.isInt, PT.known]

@[reducible] def typedPass : Pass Unit where
  In _ := CtxOK
  okE _ := exprP
  okEs _ := exprsP
  okArgs _ _ := argsP
  okC _ := condP
  okTag _ := tagP
  okS _ := stmtP
  okSs _ := stmtsP
  okEl _ := elifsP
  decl _ _ := ()
  push _ _ := ()
  pushOK _ := True

theorem typedSRule : StmtRule typedPass where
  expr _ := typedRule
  push hc _ := hc.push _
  pushBranch _ := trivial
  register hc hst h := hc.enters hst h
  nilS := rfl
  snocS _ ha hs := stmts_snoc ha hs
  nilEl := rfl
  snocEl _ ha hc hbl := elifs_snoc ha hc hbl
  ifS _ hc hbody hel hels := by
    simp only [stmtP, PT.stmt, hc.1.out, hc.2, hbody.out, hel.out, hels.out, Bool.and_self]
  cond hc hb := ⟨hc, hb⟩
  condLit := ⟨rfl, rfl⟩
  tag ht hk := ⟨ht, hk⟩
  tagLit := ⟨rfl, rfl, nofun, nofun⟩
  caseCond := tag_compare
  assign hc ht he hs hn := stmt_values he hs hn (typed_targets hc ht).1 ht.types (typed_targets hc ht).2
  assignCall hc ht he hts := stmt_call he hts (typed_targets hc ht).1 ht.types (typed_targets hc ht).2
  compound hc hf he heq hop := typed_compound (hc.var hf) he heq hop
  sliceAssign hc hf hsl hi hint hx heq := by
    simp only [stmtP, PT.stmt, hi.out, hx.out, hint, hc.var hf, hsl, heq, Bool.and_self]
  incDec b _ _ hint := incDec_ok hint b
  ret _ _ hv := hv
  brk _ _ := rfl
  cont _ _ := rfl
  print ha hv := args_of ha hv
  write hp hd hsp hsd ha := by
    rcases ha with rfl | ⟨ha, hb⟩
    · simp [stmtP, PT.stmt, PT.appendFlag, PT.expr, Expr.valueType, ValueType.isBool, hp.out, hd.out, hsp, hsd]
    · simp [stmtP, PT.stmt, PT.appendFlag, hp.out, hd.out, ha.out, hsp, hsd, hb]
  panicS he hu := by simp [stmtP, PT.stmt, he.out, hu]
  exprS {_ e} he hcl := by
    cases e <;> first
      | (cases hcl; done)
      | (cases he; done)
      | simp only [stmtP, PT.stmt, he.out, hcl, Bool.and_self]

variable {fuel : Nat}

theorem typed_func (ih : BlockIH typedPass fuel) (_ : Unit) (ctx : Ctx) (hc : CtxOK ctx) :
    Post (evalFunctionDefinition (fuel + 1) ctx) stmtP :=
  (evalFunctionDefinition_run (anyWalk fuel) ctx).mono fun _ h => by
    cases h with
    | mk _ _ hparams hrets h2 hbody hcb =>
    have hb := (hbody.elim (ih.block () _ _ _ ((hc.filterVars _).addVars (basic_params_known hparams) h2) trivial).ok).1
    simp only [stmtP, PT.stmt, hb.out, hcb, hrets, hparams, Bool.and_self]

theorem typed_for (ih : BlockIH typedPass fuel) (_ : Unit) (ctx : Ctx) (hc : CtxOK ctx) : Post (evalFor (fuel + 1) ctx) stmtP :=
  (evalFor_run (anyWalk fuel) ctx).mono fun st h => by
    have hexpr : ∀ {c e}, CtxOK c → Ran (evalExpression fuel c) e → exprP e := fun hc h =>
      h.elim ((exprWalk typedRule fuel).expression _ hc).ok
    have hblock : ∀ {c b}, CtxOK c → Ran (evalBlock fuel (fun _ _ => true) c .for_) b → stmtsP b := fun hc h =>
      (h.elim (ih.block () _ _ _ hc trivial).ok).1
    cases h with
    | @range _ idx iterable el ctx1 ctx2 pre body hidx hit hel h1 hpre hbody =>
      have hit := hexpr hc hit
      obtain ⟨e1, e2, e3⟩ := rangeElem_ok hit hidx hel
      have hkn : PT.known ⟨(Expr.valueType iterable).dt, false⟩ = true := known_elem (expr_known iterable hit)
      have hc1 := hc.addVars (vs := [idx]) (by simp [PT.varsKnown, hidx, vtInt, PT.known]) h1
      have hb : stmtsP (pre ++ body) := by
        rcases hpre with ⟨rfl, rfl⟩ | ⟨v, hv, h2, rfl⟩
        · exact hblock hc1 hbody
        · refine stmts_append ?_ (hblock (hc1.addVars (by simp [PT.varsKnown, hv, hkn]) h2) hbody)
          simp [stmtsP, PT.stmts, PT.stmt, e1, PT.varsMatch, PT.varsKnown, hv, e2, hkn]
      have h1 := incDec_ok (v := idx) (by rw [hidx]; rfl) true
      simp [stmtP, PT.stmt, PT.opt, PT.vals1, PT.expr, PT.callArity1, PT.varsMatch, PT.varsKnown, Expr.valueType, hidx, vtInt,
        ValueType.equals, PT.known, PT.cmpAllowed, ValueType.isBool, hit.out, e3, hb.out, PT.hasValue]
      exact h1
    | @classic _ ctx1 init incr cond body hh hb hbody =>
      have hstmt : ∀ {c s}, CtxOK c → Ran (evalStatement fuel c) s → stmtP s := fun hc h => h.elim (ih.statement () _ hc).ok
      have ⟨hc1, hinit⟩ : CtxOK ctx1 ∧ optP init := by
        rcases hh.init with ⟨rfl, rfl⟩ | ⟨st, rfl, hst, -, hr⟩
        · exact ⟨hc, rfl⟩
        · exact ⟨hc.enters (hstmt hc hst) (registerDefs_enters hr), hstmt hc hst⟩
      have hcond : exprP cond := by
        rcases hh.cond with rfl | h
        · rfl
        · exact hexpr hc1 h
      have hincr : optP incr := by
        cases incr with
        | none => rfl
        | some st => exact hstmt hc1 (hh.incr st rfl).1
      simp only [stmtP, PT.stmt, hinit.out, hcond.out, hb, hincr.out, (hblock hc1 hbody).out, Bool.and_self]

theorem typedWalk : ∀ fuel, BlockIH typedPass fuel :=
  stmtWalk typedSRule (fun fuel _ ctx hc => typed_def fuel ctx hc) (fun _ => typed_func) fun _ => typed_for

structure StmtIH (fuel : Nat) : Prop where
  blockContent : ∀ terms cb ctx scope, CtxOK ctx → Post (evalBlockContent fuel terms cb ctx scope) (blockP cb)
  blockLoop : ∀ terms cb ctx acc, CtxOK ctx → stmtsP acc → Post (evalBlockLoop fuel terms cb ctx acc) (blockP cb)
  block : ∀ cb ctx scope, CtxOK ctx → Post (evalBlock fuel cb ctx scope) (blockP cb)
  functionDefinition : ∀ ctx, CtxOK ctx → Post (evalFunctionDefinition fuel ctx) stmtP
  if_ : ∀ ctx, CtxOK ctx → Post (evalIf fuel ctx) stmtP
  ifRest : ∀ ctx c body elifs els, CtxOK ctx → condP c → stmtsP body → elifsP elifs → stmtsP els →
    Post (evalIfRest fuel ctx c body elifs els) stmtP
  switch : ∀ ctx, CtxOK ctx → Post (evalSwitch fuel ctx) stmtP
  cases : ∀ ctx tag first elifs dflt, CtxOK ctx → tagP tag → (∀ c b, first = some (c, b) → condP c ∧ stmtsP b) → elifsP elifs →
    (∀ d, dflt = some d → stmtsP d) → Post (evalCases fuel ctx tag first elifs dflt) stmtP
  for_ : ∀ ctx, CtxOK ctx → Post (evalFor fuel ctx) stmtP
  statement : ∀ ctx, CtxOK ctx → Post (evalStatement fuel ctx) stmtP

theorem stmtIH_all (fuel : Nat) : StmtIH fuel :=
  have w := typedWalk fuel
  { blockContent := fun terms cb ctx scope hc => w.blockContent () terms cb ctx scope hc trivial
    blockLoop := w.blockLoop ()
    block := fun cb ctx scope hc => w.block () cb ctx scope hc trivial
    functionDefinition := w.functionDefinition ()
    if_ := w.if_ ()
    ifRest := w.ifRest ()
    switch := w.switch ()
    cases := w.cases ()
    for_ := w.for_ ()
    statement := w.statement () }

end Tsh.Parser
