/-
  One walk over the expression parser, with no panic (`Post`), for every pass.  `ExprRule` lists, constructor by constructor,
  what a successful step of the parser has established: the parts have the property and the parser's own checks have passed -
  the big-step relation of the expression parser as its induction principle.  Typing, signatures, visibility and the pass that
  proves nothing are instances (for a new pass see the head of Lemmas/ParserStmtWalk).  What the parser checks of the members of a
  list (`Valued`, `ValsShape`, the element type, the arity bounds) does not depend on the pass and is proved here, once.
-/
import TshVerif.Lemmas.ParserLeaves
namespace Tsh.Parser
open Tsh Tsh.Tr Tsh.LexTables

def isMulti (e : Expr) : Prop := ∃ n rets args, e = .call n rets args ∧ rets.length > 1

/-- no member is the "value" of a function without return values -/
def Valued (es : List Expr) : Prop := ∀ e ∈ es, (Expr.valueType e).dt ≠ .unknown

/-- the check of `evaluateValues` on one value -/
def valueChk (e : Expr) : Prop :=
  ¬((Expr.valueType e).dt == .unknown ||
    ((Expr.valueType e).dt == .multiple && !(match e with | .call _ _ _ | .app _ _ _ => true | _ => false))) = true

/-- `evaluateValues`: single values, or (only as the first and only value) one call with several values -/
def ValsShape (first : Bool) (vs : List Expr) : Prop :=
  vs ≠ [] ∧ ((∀ e ∈ vs, PT.callArity1 e = true ∧ valueChk e) ∨ (first = true ∧ ∃ c, vs = [c] ∧ isMulti c))

/-- `C`: what the pass keeps of the context of a lookup; `P`, `Ps`: what it proves of an expression, of a list; `A ps acc`: what it
    knows of the arguments parsed so far for the parameters `ps` (`none`: an unchecked call) -/
structure ExprRule (C : Ctx → Prop) (P : Expr → Prop) (Ps : List Expr → Prop) (A : Option (List Var) → List Expr → Prop) : Prop where
  nil : Ps []
  cons : ∀ {e es}, P e → Ps es → Ps (e :: es)
  uncons : ∀ {e es}, Ps (e :: es) → P e ∧ Ps es
  var : ∀ {ctx name pfx g v}, C ctx → ctx.findVar name pfx g = some v → P (.varEval v)
  argsNil : ∀ {ps}, A ps []
  argsSnoc : ∀ {ps acc e}, A ps acc → Ps (acc ++ [e]) → (Expr.valueType e).dt ≠ .unknown →
    (∀ l, ps = some l → ∃ p, l[acc.length]? = some p ∧ p.vt.equals (Expr.valueType e) = true) → A ps (acc ++ [e])
  args : ∀ {ps acc}, A ps acc → Ps acc
  call : ∀ {ctx name pfx f args}, C ctx → ctx.findFunc name pfx = some f → A (some f.params) args →
    args.length = f.params.length → P (.call f.name f.rets args)
  app : ∀ {n args}, A none args → P (.app n args none)
  appPipe : ∀ {n args nx}, A none args → P nx → PT.isApp nx = true → P (.app n args (some nx))
  boolLit : ∀ {b}, P (.boolLit b)
  intLit : ∀ {n}, P (.intLit n)
  strLit : ∀ {s}, P (.strLit s)
  group : ∀ {x}, P x → P (.group x)
  inputNone : P (.input none)
  input : ∀ {x}, P x → (Expr.valueType x).isString = true → P (.input (some x))
  read : ∀ {x}, P x → (Expr.valueType x).isString = true → P (.read x)
  itoa : ∀ {x}, P x → (Expr.valueType x).isInt = true → P (.itoa x)
  exists_ : ∀ {x}, P x → (Expr.valueType x).isString = true → P (.exists_ x)
  len : ∀ {x}, P x → ((Expr.valueType x).isSlice || (Expr.valueType x).isString) = true → P (.len x)
  copy : ∀ {v x}, P (.varEval v) → P x → v.vt.isSlice = true → v.vt.equals (Expr.valueType x) = true → P (.copy v x)
  unary : ∀ {x}, P x → (Expr.valueType x).isBool = true → P (.unary "!" x (Expr.valueType x))
  binary : ∀ {op l r}, P l → P r → (Expr.valueType l).equals (Expr.valueType r) = true →
    (allowedBinary (Expr.valueType l)).contains op = true → P (.binary op l r)
  compare : ∀ {op l r}, P l → P r → (Expr.valueType l).equals (Expr.valueType r) = true →
    (allowedCompare (Expr.valueType l)).contains op = true → P (.compare op l r)
  logical : ∀ {op l r}, P l → P r → (Expr.valueType l).isBool = true → (Expr.valueType r).isBool = true →
    (op = "&&" ∨ op = "||") → P (.logical op l r)
  sliceNew : ∀ {vt vals}, PT.basic vt = true → Ps vals → (∀ e ∈ vals, (Expr.valueType e).equals ⟨vt.dt, false⟩ = true) →
    P (.sliceNew vt.dt vals)
  sliceEval : ∀ {v i}, P v → P i → (Expr.valueType v).isSlice = true → (Expr.valueType i).isInt = true →
    P (.sliceEval v i (Expr.valueType v).dt)
  substr : ∀ {v a}, P v → P a → (Expr.valueType v).isString = true → (Expr.valueType a).isInt = true → P (.substr v a none)
  substrTo : ∀ {v a b}, P v → P a → P b → (Expr.valueType v).isString = true → (Expr.valueType a).isInt = true →
    (Expr.valueType b).isInt = true → P (.substr v a (some b))

structure WalkIH (C : Ctx → Prop) (P : Expr → Prop) (Ps : List Expr → Prop) (A : Option (List Var) → List Expr → Prop)
    (fuel : Nat) : Prop where
  values : ∀ ctx first, C ctx → Post (evalValues fuel ctx first) (fun vs => Ps vs ∧ ValsShape first vs)
  builtinArgs : ∀ ctx, C ctx → Post (evalBuiltinArgs fuel ctx) (fun es => Ps es ∧ Valued es)
  builtin : ∀ ctx tt mn mx, C ctx → Post (evalBuiltin fuel ctx tt mn mx)
    (fun es => (Ps es ∧ Valued es) ∧ mn ≤ es.length ∧ ∀ m, mx = some m → es.length ≤ m)
  arguments : ∀ ctx ps, C ctx →
    Post (evalArguments fuel ctx ps) (fun args => A ps args ∧ ∀ l, ps = some l → args.length = l.length)
  argLoop : ∀ ctx ps acc, C ctx → A ps acc → Post (evalArgLoop fuel ctx ps acc) (A ps)
  argTail : ∀ ctx ps acc, C ctx → A ps acc → Post (evalArgTail fuel ctx ps acc) (A ps)
  functionCall : ∀ ctx, C ctx → Post (evalFunctionCall fuel ctx) P
  appCall : ∀ ctx, C ctx → Post (evalAppCall fuel ctx) (fun e => P e ∧ PT.isApp e = true)
  sliceInst : ∀ ctx, C ctx → Post (evalSliceInstantiation fuel ctx) P
  sliceElems : ∀ ctx dt, C ctx →
    Post (evalSliceElems fuel ctx dt) (fun es => Ps es ∧ ∀ e ∈ es, (Expr.valueType e).equals ⟨dt, false⟩ = true)
  subscript : ∀ ctx, C ctx → Post (evalSubscript fuel ctx) P
  single : ∀ ctx, C ctx → Post (evalSingle fuel ctx) P
  unary : ∀ ctx, C ctx → Post (evalUnary fuel ctx) P
  binary : ∀ ctx lv, C ctx → Post (evalBinary fuel ctx lv) P
  binaryLoop : ∀ ctx lv l, C ctx → P l → Post (evalBinaryLoop fuel ctx lv l) P
  comparison : ∀ ctx, C ctx → Post (evalComparison fuel ctx) P
  logical : ∀ ctx lv, C ctx → Post (evalLogical fuel ctx lv) P
  logicalLoop : ∀ ctx lv l, C ctx → P l → Post (evalLogicalLoop fuel ctx lv l) P
  expression : ∀ ctx, C ctx → Post (evalExpression fuel ctx) P

variable {C : Ctx → Prop} {P : Expr → Prop} {Ps : List Expr → Prop} {A : Option (List Var) → List Expr → Prop} {fuel : Nat}

theorem ExprRule.single (R : ExprRule C P Ps A) {a : Expr} (h : Ps [a]) : P a := (R.uncons h).1

theorem ExprRule.snoc (R : ExprRule C P Ps A) {acc : List Expr} {e : Expr} (ha : Ps acc) (he : P e) : Ps (acc ++ [e]) := by
  induction acc with
  | nil => exact R.cons he R.nil
  | cons x xs ih => exact R.cons (R.uncons ha).1 (ih (R.uncons ha).2)

theorem ExprRule.all (R : ExprRule C P Ps A) : ∀ {es : List Expr}, (∀ e ∈ es, P e) → Ps es
  | [], _ => R.nil
  | e :: _, h => R.cons (h e (List.mem_cons_self ..)) (R.all fun x hx => h x (List.mem_cons_of_mem _ hx))

/-- `x - 1` for `x` of type int: the last index of a range -/
theorem ExprRule.minusOne (R : ExprRule C P Ps A) {x : Expr} (hx : P x) (hi : (Expr.valueType x).isInt = true) :
    P (.binary "-" x (.intLit 1)) :=
  R.binary hx R.intLit (by rw [isInt_eq hi]; rfl) (by rw [isInt_eq hi]; rfl)

theorem w_varEvaluation (R : ExprRule C P Ps A) (ctx : Ctx) (hc : C ctx) : Post (evalVarEvaluation ctx) P := by
  unfold evalVarEvaluation
  refine Post.expect fun t _ => Post.bindAny fun s => ?_
  split
  · exact Post.pure' (R.var hc ‹_›)
  · exact Post.err

/-- the separator loop of `evalBuiltinArgs` and of `evalSliceElems`, after an element `e` with `G e` -/
theorem w_listRest (R : ExprRule C P Ps A) {G : Expr → Prop} {e : Expr} (he : P e) (hg : G e) {close : Nat} {rest : PM (List Expr)}
    (hrest : Post rest (fun es => Ps es ∧ ∀ x ∈ es, G x)) :
    Post (do
      let next ← peek
      if next.ty == TT_COMMA then do
        let _ ← eat
        let es ← rest
        pure (e :: es)
      else if next.ty == close then pure [e]
      else err) (fun es => Ps es ∧ ∀ x ∈ es, G x) :=
  Post.bindAny fun _ => Post.branch
    (Post.bindAny fun _ => Post.bind' hrest fun _ hes => Post.pure' ⟨R.cons he hes.1, List.forall_mem_cons.mpr ⟨hg, hes.2⟩⟩)
    (Post.branch (Post.pure' ⟨R.cons he R.nil, List.forall_mem_cons.mpr ⟨hg, nofun⟩⟩) Post.err)

/-- after the arity check of `evaluateBuiltInFunction`, `args[0]` is there -/
theorem w_builtin1 (R : ExprRule C P Ps A) (ih : WalkIH C P Ps A fuel) (ctx : Ctx) (hc : C ctx) (tt : Nat) {k : Expr → Expr}
    {c : Expr → Bool} (hk : ∀ x, P x → c x = true → P (k x)) :
    Post (evalBuiltin fuel ctx tt 1 (some 1) >>= fun args => match args with
      | [v] => if (!c v) = true then err else pure (k v)
      | _ => pan) P :=
  Post.bind' (ih.builtin ctx tt 1 (some 1) hc) fun args ⟨ha, hmin, hmax⟩ => by
    obtain ⟨v, rfl⟩ := len1 hmin hmax
    exact Post.unless fun hcv => Post.pure' (hk v (R.single ha.1) hcv)

theorem exprWalk_succ (R : ExprRule C P Ps A) (ih : WalkIH C P Ps A fuel) : WalkIH C P Ps A (fuel + 1) where
  values ctx first hc := by
    unfold evalValues
    refine Post.bind' (ih.expression ctx hc) fun e he => Post.bindAny fun next => ?_
    dsimp only
    refine Post.guard fun h0 => Post.guard fun hfirst => Post.guard fun hchk => ?_
    have shape : (PT.callArity1 e = true ∧ valueChk e) ∨ isMulti e := by
      by_cases hc1 : PT.callArity1 e = true
      · exact Or.inl ⟨hc1, hchk⟩
      · unfold PT.callArity1 at hc1
        split at hc1
        · rename_i n rets args
          refine Or.inr ⟨n, rets, args, rfl, ?_⟩
          have : rets.length ≠ 0 := by
            intro h; simp [h] at h0
          have : rets.length ≠ 1 := by simpa using hc1
          omega
        · exact absurd rfl hc1
    refine Post.ite' (fun _ => Post.pure' ⟨R.cons he R.nil, by simp, ?_⟩) fun _ => Post.bindAny fun _ => Post.guard fun hle =>
      Post.bind' (ih.values ctx false hc) fun rest hrest => Post.pure' ⟨R.cons he hrest.1, by simp, Or.inl ?_⟩
    · rcases shape with h | ⟨n, rets, args, rfl, hr⟩
      · exact Or.inl (List.forall_mem_cons.mpr ⟨h, nofun⟩)
      · refine Or.inr ⟨?_, _, rfl, n, rets, args, rfl, hr⟩
        have : ((rets.length : Int) > 1) := by omega
        simpa [this] using hfirst
    · have hr := hrest.2.2.resolve_right (by simp)
      rcases shape with h | ⟨n, rets, args, rfl, hr'⟩
      · exact List.forall_mem_cons.mpr ⟨h, hr⟩
      · exact absurd (by simp only [gt_iff_lt]; omega) hle
  builtinArgs ctx hc := by
    unfold evalBuiltinArgs
    exact Post.bind' (ih.expression ctx hc) fun e he => Post.guard fun hu =>
      w_listRest R (G := fun e => (Expr.valueType e).dt ≠ .unknown) he (by simpa using hu) (ih.builtinArgs ctx hc)
  builtin ctx tt mn mx hc := by
    unfold evalBuiltin
    refine Post.expect fun kw _ => Post.expect fun o _ => Post.bindAny fun n => ?_
    refine Post.bind' (Post.branch (ih.builtinArgs ctx hc) (Post.pure' ⟨R.nil, nofun⟩)) fun args ha => ?_
    refine Post.guard fun hmin => Post.guard fun hmax => Post.expect fun c _ => Post.pure' ⟨ha, by omega, ?_⟩
    rintro m rfl
    simpa using hmax
  arguments ctx ps hc := by
    unfold evalArguments
    refine Post.expect fun o _ => Post.bind' (ih.argLoop ctx _ _ hc R.argsNil) fun args ha => ?_
    have close : (∀ l, ps = some l → args.length = l.length) → Post (do
        let c ← eat
        if (c.ty != TT_CLOSING_ROUND_BRACKET) = true then err else pure args)
        (fun args => A ps args ∧ ∀ l, ps = some l → args.length = l.length) :=
      fun hl => Post.expect fun c _ => Post.pure' ⟨ha, hl⟩
    split
    · exact Post.ite' (fun _ => Post.errBind) fun hlen => close fun _ h => by cases h; simpa using hlen
    · exact close fun _ h => nomatch h
  argLoop ctx ps acc hc hacc := by
    unfold evalArgLoop
    refine Post.bindAny fun n => Post.ite' (fun _ => Post.pure' hacc) fun _ => ?_
    refine Post.bind' (ih.expression ctx hc) fun e he => ?_
    dsimp only
    refine Post.guard fun hu => ?_
    have hu : (Expr.valueType e).dt ≠ .unknown := by simpa using hu
    have he := R.snoc (R.args hacc) he
    split
    · refine Post.guard fun hlen => ?_
      split
      · -- the parameter that belongs to the argument just parsed exists: the list is not longer than the parameter list
        rename_i hnone
        refine Post.unreachable ?_
        simp only [List.getElem?_eq_none_iff, List.length_append, List.length_cons, List.length_nil] at hnone
        simp only [List.length_append, List.length_cons, List.length_nil, gt_iff_lt, Nat.not_lt] at hlen
        omega
      · rename_i p hp
        refine Post.unless fun heq => ih.argTail ctx _ _ hc (R.argsSnoc hacc he hu fun _ h => ?_)
        cases h
        simp only [List.length_append, List.length_cons, List.length_nil, Nat.add_sub_cancel] at hp
        exact ⟨p, hp, heq⟩
    · exact ih.argTail ctx _ _ hc (R.argsSnoc hacc he hu fun _ h => nomatch h)
  argTail ctx ps acc hc hacc := by
    unfold evalArgTail
    refine Post.bindAny fun n => Post.guard fun _ => ?_
    exact Post.branch (Post.bindAny fun _ => ih.argLoop ctx _ _ hc hacc) (ih.argLoop ctx _ _ hc hacc)
  functionCall ctx hc := by
    unfold evalFunctionCall
    refine Post.bindAny fun first => Post.bindAny fun dot => Post.bindAny ?_ (hm := Post.branch
      (Post.bindAny fun _ => Post.bindAny fun n => Post.pure' trivial) (Post.pure' trivial))
    rintro ⟨alias, nameTok⟩
    refine Post.guard fun _ => Post.bindAny fun s => ?_
    dsimp only
    split
    · exact Post.err
    · rename_i f hf
      exact Post.bind' (ih.arguments ctx _ hc) fun args ha => Post.bindAny fun _ => Post.pure' (R.call hc hf ha.1 (ha.2 _ rfl))
  appCall ctx hc := by
    unfold evalAppCall
    refine Post.expect fun at_ _ => Post.bindAny fun n => Post.guard fun _ => ?_
    refine Post.bind' (ih.arguments ctx _ hc) fun args ha => Post.bindAny fun p => ?_
    exact Post.branch (Post.bindAny fun _ => Post.bind' (ih.appCall ctx hc) fun next hn => Post.pure' ⟨R.appPipe ha.1 hn.1 hn.2, rfl⟩)
      (Post.pure' ⟨R.app ha.1, rfl⟩)
  sliceInst ctx hc := by
    unfold evalSliceInstantiation
    refine Post.bind' valueType_post fun vt hvt => Post.guard fun _ => Post.expect fun o _ => Post.bindAny fun n => ?_
    refine Post.bind' (Post.branch (ih.sliceElems ctx vt.dt hc) (Post.pure' ⟨R.nil, nofun⟩)) fun vals hv => ?_
    exact Post.expect fun c _ => Post.pure' (R.sliceNew hvt hv.1 hv.2)
  sliceElems ctx dt hc := by
    unfold evalSliceElems
    exact Post.bind' (ih.expression ctx hc) fun e he => Post.unless fun ht =>
      w_listRest R (G := fun e => (Expr.valueType e).equals ⟨dt, false⟩ = true) he ht (ih.sliceElems ctx dt hc)
  subscript ctx hc := by
    unfold evalSubscript
    refine Post.bindAny fun vt0 => Post.bind' (P := P) ?_ fun value hv => ?_
    · exact Post.branch (w_varEvaluation R ctx hc) (Post.branch (ih.expression ctx hc) Post.err)
    dsimp only
    refine Post.guard fun hvt => Post.expect fun o _ => Post.bindAny fun n => ?_
    refine Post.bind' (P := P) ?_ fun start hs => Post.unless fun hsi => Post.bindAny fun n2 => ?_
    · exact Post.branch (Post.bindAny fun _ => Post.pure' R.intLit) (ih.expression ctx hc)
    refine Post.bindAny (hm := Post.branch (Post.guard fun _ => Post.bindAny fun _ => Post.pure' trivial) (Post.pure' trivial))
      fun gotRange => Post.guard fun hgr => Post.bindAny fun n3 => ?_
    have hstr : (Expr.valueType value).isSlice = false → (Expr.valueType value).isString = true := by
      intro h; simpa [ValueType.isString, h] using hvt
    -- `x - 1` has the property only for `x` of type int; that check comes later
    refine Post.bind' (P := fun stop => (Expr.valueType stop).isInt = true → P stop) ?_ fun stop hstop => ?_
    · refine Post.branch (Post.bindAny fun _ => Post.pure' fun _ => ?_) ?_
      · split
        · rename_i hg
          have hsl : (Expr.valueType value).isSlice = false := by simpa [hg] using hgr
          exact R.minusOne (R.len hv (by simp [hstr hsl])) rfl
        · exact hs
      · exact Post.bind' (ih.expression ctx hc) fun e he => Post.expect fun c _ => Post.pure' (R.minusOne he)
    refine Post.unless fun hst => Post.ite' (fun hsl => Post.pure' ?_) fun hsl => Post.pure' ?_
    · have hsl' : (Expr.valueType value).isSlice = false := by simpa using hsl
      cases gotRange
      · exact R.substr hv hs (hstr hsl') hsi
      · exact R.substrTo hv hs (hstop hst) (hstr hsl') hsi hst
    · exact R.sliceEval hv hs (by simpa using hsl) hsi
  single ctx hc := by
    unfold evalSingle
    refine Post.bindAny fun t => ?_
    refine Post.branch (Post.bindAny fun _ => Post.pure' R.boolLit) ?_
    refine Post.branch (Post.bindAny fun _ => ?_) ?_
    · split
      · exact Post.pure' R.intLit
      · exact Post.err
    refine Post.branch (Post.bindAny fun _ => Post.pure' R.strLit) ?_
    refine Post.branch (Post.bindAny fun _ => Post.pure' R.strLit) ?_
    refine Post.branch (Post.bindAny fun _ => Post.bind' (ih.expression ctx hc) fun child hch =>
      Post.expect fun c _ => Post.pure' (R.group hch)) ?_
    refine Post.branch (ih.sliceInst ctx hc) ?_
    refine Post.branch (Post.bind' (ih.builtin ctx _ _ _ hc) fun args ⟨ha, _, _⟩ => ?_) ?_
    · split
      · exact Post.pure' R.inputNone
      · exact Post.unless fun hs => Post.pure' (R.input (R.uncons ha.1).1 hs)
    refine Post.branch (w_builtin1 R ih ctx hc _ fun _ => R.read) ?_
    refine Post.branch (Post.bind' (ih.builtin ctx _ _ _ hc) fun args ⟨ha, hmin, hmax⟩ => ?_) ?_
    · obtain ⟨dst, src, rfl⟩ := len2 hmin hmax
      dsimp only
      split
      · refine Post.unless fun h1 => Post.guard fun _ => Post.unless fun h3 => Post.pure' ?_
        exact R.copy (R.uncons ha.1).1 (R.single (R.uncons ha.1).2) h1 h3
      · exact Post.err
    refine Post.branch (w_builtin1 R ih ctx hc _ fun _ => R.itoa) ?_
    refine Post.branch (w_builtin1 R ih ctx hc _ fun _ => R.exists_) ?_
    refine Post.branch (Post.bind' (ih.builtin ctx _ _ _ hc) fun args ⟨ha, hmin, hmax⟩ => ?_) ?_
    · obtain ⟨v, rfl⟩ := len1 hmin hmax
      exact Post.guard fun hl => Post.pure' (R.len (R.single ha.1) (by
        cases h1 : (Expr.valueType v).isSlice <;> simp_all))
    refine Post.branch ((ih.appCall ctx hc).mono fun e h => h.1) ?_
    refine Post.branch (Post.bindAny fun n => ?_) Post.err
    exact Post.branch (ih.functionCall ctx hc) (Post.branch (ih.subscript ctx hc) (w_varEvaluation R ctx hc))
  unary ctx hc := by
    unfold evalUnary
    refine Post.bindAny fun t => ?_
    dsimp only
    have fin : ∀ e, P e → Post (if (t.ty == TT_UNARY_OPERATOR && t.val == "!") = true then
            if (!(Expr.valueType e).isBool) = true then err else pure (Expr.unary "!" e (Expr.valueType e))
          else pure e) P := fun e he =>
      Post.branch (Post.unless fun hb => Post.pure' (R.unary he hb)) (Post.pure' he)
    exact Post.branch (Post.bindAny fun _ => Post.bind' (ih.single ctx hc) fin) (Post.bind' (ih.single ctx hc) fin)
  binary ctx lv hc := by
    unfold evalBinary
    exact Post.bind' (Post.branch (ih.unary ctx hc) (ih.binary ctx 0 hc)) fun left hl => ih.binaryLoop ctx _ _ hc hl
  binaryLoop ctx lv l hc hl := by
    unfold evalBinaryLoop
    dsimp only
    refine Post.bindAny fun t => Post.ite' (fun _ => Post.pure' hl) fun _ => Post.bindAny fun _ => ?_
    refine Post.bind' (Post.branch (ih.unary ctx hc) (ih.binary ctx 0 hc)) fun right hr => ?_
    exact Post.unless fun heq => Post.unless fun hop => ih.binaryLoop ctx _ _ hc (R.binary hl hr heq hop)
  comparison ctx hc := by
    unfold evalComparison
    refine Post.bind' (ih.binary ctx 1 hc) fun left hl => Post.bindAny fun t => ?_
    refine Post.ite' (fun _ => Post.bindAny fun _ => Post.bind' (ih.comparison ctx hc) fun right hr => ?_) fun _ => Post.pure' hl
    dsimp only
    exact Post.unless fun heq => Post.unless fun hop => Post.pure' (R.compare hl hr heq hop)
  logical ctx lv hc := by
    unfold evalLogical
    exact Post.bind' (Post.branch (ih.comparison ctx hc) (ih.logical ctx 0 hc)) fun left hl => ih.logicalLoop ctx _ _ hc hl
  logicalLoop ctx lv l hc hl := by
    unfold evalLogicalLoop
    dsimp only
    refine Post.bindAny fun t => Post.ite' (fun _ => Post.pure' hl) fun hop => Post.unless fun hlb => Post.bindAny fun _ => ?_
    refine Post.bind' (Post.branch (ih.comparison ctx hc) (ih.logical ctx 0 hc)) fun right hr => ?_
    refine Post.unless fun hrb => ih.logicalLoop ctx _ _ hc (R.logical hl hr hlb hrb ?_)
    have hv : t.ty = TT_LOGICAL_OPERATOR ∧ t.val = if (lv == 0) = true then "&&" else "||" := by simpa using hop
    rw [hv.2]
    split
    · exact .inl rfl
    · exact .inr rfl
  expression ctx hc := by
    unfold evalExpression
    exact ih.logical ctx 1 hc

theorem exprWalk (R : ExprRule C P Ps A) : ∀ fuel, WalkIH C P Ps A fuel
  -- fuel 0: every function is `div`, which `exact` sees only if it may unfold the compiled recursion
  | 0 => by constructor <;> intros <;> with_unfolding_all exact Post.div
  | fuel + 1 => exprWalk_succ R (exprWalk R fuel)

theorem ExprRule.any {C : Ctx → Prop} : ExprRule C (fun _ => True) (fun _ => True) (fun _ _ => True) := by
  constructor <;> intros <;> first | trivial | exact ⟨trivial, trivial⟩

theorem evalExpression_np (fuel : Nat) (ctx : Ctx) (s : PSt) : evalExpression fuel ctx s ≠ .panic :=
  ((exprWalk (C := fun _ => True) ExprRule.any fuel).expression ctx trivial).np s

end Tsh.Parser
