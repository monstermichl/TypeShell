/-
  What the passes share below the two walks: the lookups of the context, `Enters` (the one fact about `registerDefs` /
  `registerImported` that the passes use), the parsers that call neither the expression nor the statement parser, and pure helpers
  of the statement parser.  Nothing belongs to one pass: `PT.basic`, `PT.known`, `PT.varsMatch` say what the parser's own checks
  establish (every pass meets them in `FuncDefRun`).
-/
import TshVerif.Lemmas.ParserPost
import TshVerif.Lemmas.Assoc
import TshVerif.Model.PTyped
namespace Tsh.Parser
open Tsh Tsh.Tr Tsh.LexTables

theorem band_true {a b : Bool} (ha : a = true) (hb : b = true) : (a && b) = true :=
  Bool.and_eq_true_iff.mpr ⟨ha, hb⟩

theorem equals_refl (t : ValueType) : t.equals t = true := by simp [ValueType.equals]

theorem equals_eq {a b : ValueType} (h : a.equals b = true) : a = b := by
  obtain ⟨d1, s1⟩ := a
  obtain ⟨d2, s2⟩ := b
  simp only [ValueType.equals, Bool.and_eq_true, beq_iff_eq] at h
  simp [h.1, h.2]

theorem isInt_eq {vt : ValueType} (h : vt.isInt = true) : vt = ⟨.int, false⟩ := by
  obtain ⟨dt, sl⟩ := vt
  simp only [ValueType.isInt, Bool.and_eq_true, beq_iff_eq, Bool.not_eq_true'] at h
  rw [h.1, h.2]

theorem foldl_const {α β : Type} (l : List α) (b : β) : l.foldl (fun e _ => e) b = b := by
  induction l with
  | nil => rfl
  | cons _ _ ih => exact ih

theorem findVar_mem {c : Ctx} {name pfx : String} {g : Bool} {v : Var} (h : c.findVar name pfx g = some v) :
    ∃ e ∈ c.vars, e.2 = v := by
  unfold Ctx.findVar at h
  split at h
  · simp at h
  · split at h
    · rename_i v' hv
      simp only [Option.some.injEq] at h
      subst h
      exact ⟨_, assocGet_mem hv, rfl⟩
    · split at h
      · exact ⟨_, assocGet_mem h, rfl⟩
      · simp at h

theorem findFunc_mem {c : Ctx} {name pfx : String} {f : FuncInfo} (h : c.findFunc name pfx = some f) :
    ∃ e ∈ c.funcs, e.2 = f := by
  unfold Ctx.findFunc at h
  split at h
  · exact ⟨_, assocGet_mem h, rfl⟩
  · simp at h

theorem addVars_ctx {pfx : String} {g : Bool} : ∀ {vs : List Var} {c c' : Ctx}, c.addVars pfx g vs = some c' →
    ∃ vars, c' = { c with vars := vars } ∧ ∀ e ∈ vars, e ∈ c.vars ∨ e.2 ∈ vs := by
  intro vs
  induction vs with
  | nil => intro c c' h; cases h; exact ⟨_, rfl, fun e he => .inl he⟩
  | cons v vs ih =>
    intro c c' h
    simp only [Ctx.addVars, List.foldlM_cons] at h
    cases hb : c.buildName v.name pfx g false with
    | none => simp [hb] at h
    | some k =>
      simp only [hb, Option.bind_eq_bind, Option.bind_some] at h
      obtain ⟨vars, rfl, hv⟩ := ih (c := { c with vars := assocSet c.vars k v }) h
      refine ⟨vars, rfl, fun e he => ?_⟩
      rcases hv e he with h1 | h1
      · rcases assocSet_mem h1 with h2 | rfl
        · exact .inl h2
        · exact .inr (List.mem_cons_self ..)
      · exact .inr (List.mem_cons_of_mem _ h1)

def defVars : Stmt → List Var
  | .varDef vars _ | .varDefCall vars _ => vars
  | _ => []

/-- registering the definitions of `st` (`registerDefs`, `registerImported`): variables and functions come in, each defined by `st` -/
def Enters (st : Stmt) (c c' : Ctx) : Prop :=
  ∃ vars funcs, c' = { c with vars := vars, funcs := funcs } ∧ (∀ e ∈ vars, e ∈ c.vars ∨ e.2 ∈ defVars st) ∧
    ∀ e ∈ funcs, e ∈ c.funcs ∨ ∃ n p r ps b, st = .funcDef n p r ps b ∧ e.2 = ⟨n, r, ps, p⟩

theorem Enters.scopes {st : Stmt} {c c' : Ctx} (h : Enters st c c') : c'.scopes = c.scopes := by
  obtain ⟨_, _, rfl, -⟩ := h
  rfl

theorem registerDefs_enters {pfx : String} {g : Bool} {st : Stmt} {c c' : Ctx} (h : registerDefs c pfx g st = some c') :
    Enters st c c' := by
  unfold registerDefs at h
  split at h
  · obtain ⟨vars, rfl, hv⟩ := addVars_ctx h
    exact ⟨vars, c.funcs, rfl, hv, fun _ h => .inl h⟩
  · obtain ⟨vars, rfl, hv⟩ := addVars_ctx h
    exact ⟨vars, c.funcs, rfl, hv, fun _ h => .inl h⟩
  · unfold Ctx.addFunc at h
    split at h
    · cases h
      exact ⟨c.vars, _, rfl, fun _ h => .inl h, fun e h => (assocSet_mem h).imp_right fun e' => ⟨_, _, _, _, _, rfl, by rw [e']⟩⟩
    · cases h
  · cases h
    exact ⟨c.vars, c.funcs, rfl, fun _ h => .inl h, fun _ h => .inl h⟩

theorem mapM_cons_some {α β : Type} {f : α → Option β} {a : α} {l : List α} {r : List β} (h : (a :: l).mapM f = some r) :
    ∃ b bs, f a = some b ∧ l.mapM f = some bs ∧ r = b :: bs := by
  rw [List.mapM_cons] at h
  cases h1 : f a with
  | none => simp [h1] at h
  | some b =>
    cases h2 : l.mapM f with
    | none => simp [h1, h2] at h
    | some bs => exact ⟨b, bs, rfl, rfl, by simpa [h1, h2] using h.symm⟩

theorem mapM_get {α β : Type} {f : α → Option β} : ∀ {l : List α} {r : List β}, l.mapM f = some r →
    r.length = l.length ∧ ∀ i (h1 : i < l.length) (h2 : i < r.length), f l[i] = some r[i] := by
  intro l
  induction l with
  | nil => intro r h; cases h; exact ⟨rfl, fun i h1 => nomatch h1⟩
  | cons a as ih =>
    intro r h
    obtain ⟨b, bs, h1, h2, rfl⟩ := mapM_cons_some h
    obtain ⟨hl, hi⟩ := ih h2
    refine ⟨congrArg (· + 1) hl, fun i hi1 hi2 => ?_⟩
    cases i with
    | zero => exact h1
    | succ j => exact hi j (Nat.lt_of_succ_lt_succ hi1) (Nat.lt_of_succ_lt_succ hi2)

theorem mapM_mem {α β : Type} {f : α → Option β} {l : List α} {r : List β} (h : l.mapM f = some r) (b : β) (hb : b ∈ r) :
    ∃ a ∈ l, f a = some b := by
  obtain ⟨i, hi, rfl⟩ := List.getElem_of_mem hb
  have hl := (mapM_get h).1 ▸ hi
  exact ⟨l[i], List.getElem_mem hl, (mapM_get h).2 i hl hi⟩

/-- each variable made has the type at its position and whatever else (`K`) the function gives -/
theorem mapM_zip_match {α : Type} {K : Var → Prop} {f : α × ValueType → Option Var} :
    ∀ {as : List α} {types : List ValueType} {vars : List Var}, (as.zip types).mapM f = some vars →
      as.length = types.length →
      (∀ a t, (a, t) ∈ as.zip types → ∀ v, f (a, t) = some v → v.vt.equals t = true ∧ K v) →
      PT.varsMatch vars types = true ∧ (∀ v ∈ vars, K v) ∧ vars.length = as.length := by
  intro as
  induction as with
  | nil =>
    intro types vars h hl _
    cases types with
    | nil => cases h; exact ⟨rfl, nofun, rfl⟩
    | cons _ _ => cases hl
  | cons a as ih =>
    intro types vars h hl hf
    cases types with
    | nil => cases hl
    | cons t ts =>
      obtain ⟨v, vs, h1, h2, rfl⟩ := mapM_cons_some h
      obtain ⟨he, hk⟩ := hf a t (List.mem_cons_self ..) v h1
      obtain ⟨m1, m2, m3⟩ := ih h2 (Nat.succ.inj hl) fun a t hp => hf a t (List.mem_cons_of_mem _ hp)
      exact ⟨by simp [PT.varsMatch, he, m1], List.forall_mem_cons.mpr ⟨hk, m2⟩, by simp [m3]⟩

theorem multi_single {values : List Expr} {ts : List ValueType} (h : multiReturnTypes values = some ts) :
    ∃ c, values = [c] := by
  unfold multiReturnTypes at h
  split at h
  · exact ⟨_, rfl⟩
  · exact ⟨_, rfl⟩
  · simp at h

theorem multi_none {values : List Expr} (hno : ∀ ts c, multiReturnTypes values = some ts → values = [c] → False) :
    multiReturnTypes values = none := by
  cases hmt : multiReturnTypes values with
  | none => rfl
  | some ts =>
    obtain ⟨c, rfl⟩ := multi_single hmt
    exact (hno ts c hmt rfl).elim

theorem default_lit {vt : ValueType} {e : Expr} (h : defaultVarValue vt = some e) :
    e = .boolLit false ∨ e = .intLit 0 ∨ e = .strLit "" ∨ e = .sliceNew vt.dt [] := by
  unfold defaultVarValue at h
  split at h
  · split at h <;> cases h
    · exact .inl rfl
    · exact .inr (.inl rfl)
    · exact .inr (.inr (.inl rfl))
  · cases h
    exact .inr (.inr (.inr rfl))

theorem ite_some {α : Type} {c : Prop} [Decidable c] {a b : α} {o : Option α} (h : (if c then some a else o) = some b) :
    a = b ∨ o = some b := by
  split at h
  · exact .inl (Option.some.inj h)
  · exact .inr h

theorem typeOfName_basic {s : String} {dt : DataType} (h : typeOfName s = some dt) (sl : Bool) :
    PT.basic ⟨dt, sl⟩ = true := by
  unfold typeOfName at h
  rcases ite_some h with rfl | h
  · rfl
  rcases ite_some h with rfl | h
  · rfl
  rcases ite_some h with rfl | h
  · rfl
  rcases ite_some h with rfl | h
  · rfl
  · cases h

theorem basic_known {vt : ValueType} (h : PT.basic vt = true) : PT.known vt = true := by
  obtain ⟨dt, sl⟩ := vt
  cases dt <;> first | rfl | cases h

theorem valueType_post : Post evalValueType (fun vt => PT.basic vt = true) := by
  unfold evalValueType
  refine Post.bindAny fun t => Post.bindAny ?_ (hm := Post.branch
    (Post.bindAny fun _ => Post.expect fun c _ => Post.bindAny fun n => Post.pure' trivial) (Post.pure' trivial))
  rintro ⟨isSlice, t'⟩
  refine Post.guard fun _ => Post.bindAny fun _ => ?_
  split
  · exact Post.pure' (typeOfName_basic ‹_› _)
  · exact Post.err

/-- a builtin with minimum = maximum = 1 (2), from the bounds of `WalkIH.builtin` -/
theorem len1 {args : List Expr} (h1 : 1 ≤ args.length) (h2 : ∀ m, some 1 = some m → args.length ≤ m) : ∃ p, args = [p] :=
  List.length_eq_one_iff.mp (Nat.le_antisymm (h2 1 rfl) h1)

theorem len2 {args : List Expr} (h1 : 2 ≤ args.length) (h2 : ∀ m, some 2 = some m → args.length ≤ m) : ∃ p q, args = [p, q] := by
  have := h2 2 rfl
  rcases args with _ | ⟨p, _ | ⟨q, _ | _⟩⟩
  · simp at h1
  · simp at h1
  · exact ⟨p, q, rfl⟩
  · simp at this

theorem varNames_post : ∀ fuel, Post (evalVarNames fuel) (fun ns => ns ≠ []) := by
  intro fuel
  induction fuel with
  | zero => unfold evalVarNames; exact Post.div
  | succ fuel ih =>
    unfold evalVarNames
    refine Post.expect fun t _ => Post.bindAny fun n => Post.ite' (fun _ => Post.pure' (by simp)) fun _ => ?_
    exact Post.bindAny fun _ => Post.bind' ih fun rest _ => Post.pure' (by simp)

theorem params_post (ctx : Ctx) : ∀ (fuel : Nat) (acc : List Var), acc.all (fun p => PT.basic p.vt) = true →
    Post (evalParams fuel ctx acc) (fun ps => ps.all (fun p => PT.basic p.vt) = true) := by
  intro fuel
  induction fuel with
  | zero => intro acc _; unfold evalParams; exact Post.div
  | succ fuel ih =>
    intro acc hacc
    unfold evalParams
    refine Post.bindAny fun t => Post.branch (Post.pure' hacc) (Post.guard fun _ => Post.bindAny fun _ => Post.bindAny fun s => ?_)
    refine Post.guard fun _ => Post.bind' valueType_post fun vt hvt => Post.bindAny fun n => Post.guard fun _ => ?_
    pm_zeta
    exact Post.branch (Post.bindAny fun _ => ih _ (by simp [hacc, hvt])) (ih _ (by simp [hacc, hvt]))

theorem returnTypes_post : ∀ (fuel : Nat) (multiple : Bool) (acc : List ValueType), acc.all PT.basic = true →
    Post (evalReturnTypes fuel multiple acc) (fun ts => ts.all PT.basic = true) := by
  intro fuel
  induction fuel with
  | zero => intro m acc _; unfold evalReturnTypes; exact Post.div
  | succ fuel ih =>
    intro m acc hacc
    unfold evalReturnTypes
    refine Post.bindAny fun t => Post.bind' (P := fun ts => ts.all PT.basic = true) ?_ fun acc' hacc' => ?_
    · exact Post.branch (Post.bind' valueType_post fun vt hvt => Post.pure' (by simp [hacc, hvt])) (Post.pure' hacc)
    refine Post.branch (Post.pure' hacc') (Post.bindAny fun n => Post.branch (Post.pure' hacc') ?_)
    exact Post.guard fun _ => ih _ _ hacc'

theorem skipNewlines_any : ∀ fuel, Post (skipNewlines fuel) (fun _ => True) := by
  intro fuel
  induction fuel with
  | zero => unfold skipNewlines; exact Post.div
  | succ fuel ih =>
    unfold skipNewlines
    exact Post.bindAny fun t => Post.branch (Post.bindAny fun _ => ih) (Post.pure' trivial)


end Tsh.Parser
