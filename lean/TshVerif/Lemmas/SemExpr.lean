/-
  The bash target as a `Sem.Target` (`bashT`; `Lemmas/SemTarget` has the theory).  What the converter's operations emit is in
  `Lemmas/ConvOps` for any context; here it is read at top level (`OpLineF.top`), which gives `bashOps` and `expr_full`.
-/
import TshVerif.Lemmas.ConvOps
import TshVerif.Lemmas.SemSrc
import TshVerif.Lemmas.BashStmt
namespace Tsh.Sem
open Tsh Tsh.Tr Tsh.Bash

/-- `bashT.Holds`, unfolded -/
def Holds (t v : String) (k : Nat) (ρ : Store) : Prop :=
  ∀ ρ', (∀ x, (∀ j, k ≤ j → x ≠ helperName j) → ρ' x = ρ x) → Complete ρ' t.toList v.toList

/-- `bashT.runLines` (`runLines_eq`) -/
def runLines : List Line → Cfg → Option Cfg
  | [], c => some c
  | l :: ls, c =>
      match stepSimple l c with
      | some (.normal, c') => runLines ls c'
      | _ => none

@[reducible] def bashT : Target where
  Line := Line
  σ := St
  cv := conv
  step := stepSimple
  Complete := Complete
  ref x := "${" ++ x ++ "}"
  setLine := .assign
  top s := s.funcs = []
  cnt s := s.varCounter
  Adv s s' new n := s' = adv s new n
  complete_nil := Complete.nil
  complete_append := Complete.append
  complete_ref := complete_var
  complete_bool := complete_bool
  complete_int := complete_int
  step_set x out h := by simp only [stepSimple, h.toExpand]
  adv_refl _ := rfl
  adv_trans h1 h2 := by rw [h2, h1, adv_adv]
  adv_cnt h := by rw [h]; rfl
  adv_top h h0 := by rw [h]; exact h0

theorem runLines_eq : runLines = bashT.runLines := by
  funext ls
  induction ls with
  | nil => rfl
  | cons l ls ih => funext c; simp only [runLines, Target.runLines, ih]; rfl

theorem Holds.expand {t v : String} {k : Nat} {ρ : Store} (h : Holds t v k ρ) : expand ρ t = some v :=
  (h ρ fun _ _ => rfl).toExpand

theorem Computes.sets {ρ : Store} {line : Line} {h v : String} (hc : Computes ρ line h v) : bashT.Sets line h v ρ := by
  intro out
  cases hc with
  | assign e => simp only [stepSimple, e]
  | arith ea eb ex => simp only [stepSimple, ea, eb, ex]
  | test hb ez => simp only [stepSimple, hb, ez, if_true]

theorem _root_.Tsh.Sem2.OpLineF.top {R : Src.Val → Src.Val → Src.Val → Prop} {l r t : String} {s s' : St} (h : Sem2.OpLineF R l r t s s')
    (h0 : s.funcs = []) : bashT.OpLine R l r t s s' := by
  obtain ⟨line, rfl, rfl, _, hp⟩ := h
  rw [Sem2.hn_top h0] at hp ⊢
  exact ⟨line, rfl, rfl, fun a b v hv _ ρ ha hb => (hp a b v hv ρ ha.here hb.here).sets⟩

theorem varName_top (s : St) (h : s.funcs = []) (n : String) (g : Bool) : varName s n g = n := by
  simp [varName, inFunction, h]

theorem varAssignment_top (x t : String) (g : Bool) (s : St) (h0 : s.funcs = []) :
    varAssignment x t g s = .ok ((), { s with code := .assign x t :: s.code }) := by
  simp only [varAssignment, bind, Tr.get, addLine, Tr.modify, varName_top s h0]

theorem varEvaluation_top (x : String) (g : Bool) (s : St) (h0 : s.funcs = []) : varEvaluation x g s = .ok ("${" ++ x ++ "}", s) := by
  rw [Sem2.varEvaluation_specF, ← Sem2.varName_ctx, varName_top s h0]

theorem helperVar_eq (k : Nat) : (s!"_h{k}" : String) = helperName k := rfl

/- by `simp`, not `rfl`: the unifier would unfold `comparisonOp` down to its `if` before it looks into the record `conv` -/
theorem conv_binary (l op r : String) (vt : ValueType) (u : Bool) : conv.binaryOperation l op r vt u = binaryOp l op r vt := by
  simp only [conv]
theorem conv_comparison (l op r : String) (vt : ValueType) (u : Bool) : conv.comparison l op r vt u = comparisonOp l op r vt := by
  simp only [conv]
theorem conv_logical (l op r : String) (vt : ValueType) (u : Bool) : conv.logicalOperation l op r vt u = logicalOp l op r := by
  simp only [conv]

theorem bashOps : bashT.Ops src64 where
  strLit lit := .const fun env v hv ρ => by
    split at hv
    · rename_i hp
      cases hv
      exact complete_escaped ρ lit fun c hc => ((Bool.and_eq_true _ _).mp (List.all_eq_true.mp hp c hc)).1
    · cases hv
  varEval x _ g s h0 := varEvaluation_top x g s h0
  varDef h0 h := by cases (varAssignment_top _ _ _ _ h0).symm.trans h; rfl
  unary h0 h := (Sem2.unaryOp_semF h).2.top h0
  binary h0 h := (Sem2.binaryOp_semF (conv_binary .. ▸ h)).top h0
  compare h0 h := (Sem2.comparisonOp_semF (conv_comparison .. ▸ h)).top h0
  logical h0 h := (Sem2.logicalOp_semF (conv_logical .. ▸ h)).top h0

theorem expr_full (e : Expr) (hf : Src.fragExpr e = true) (used : Bool) :
    bashT.ExprFull (Tr.evalExpr conv e used) (fun env => Src.evalExpr env e) :=
  bashT.expr_full bashOps e hf used

end Tsh.Sem
