/-
  The source semantics, clause by clause: what each of the eight evaluation functions does with one more unit of fuel, written
  with the few ways in which it puts sub-evaluations in sequence (a proof argues about these combinators once).  Where proofs take
  apart what a node does once its operands are evaluated, that part has a name.
-/
import TshVerif.Sem2.Src
import TshVerif.Lemmas.SrcVal
namespace Tsh.Sem2.Src
open Tsh Tsh.Tr Tsh.Sem Tsh.Sem.Src

/-! `x` is a sub-evaluation, `K` goes on with what it gave, `E k c1` passes on the end of the program (a `panic` inside a called
  function), stuck stays stuck.  `bindL` hands on all operands, `bind1` demands exactly one, `bind2` takes two expressions left to right. -/

def bindL {γ : Type} (x : Option (R (List Opd))) (E : Nat → SCfg → γ) (K : List Opd → SCfg → Option γ) : Option γ :=
  match x with
  | some (.ok os c1) => K os c1
  | some (.exit k c1) => some (E k c1)
  | none => none

/-- `bindL` at another type, and not one polymorphic definition: the clauses below hold by `rfl` only because these matches
    are compiled to the very matchers of the evaluation functions -/
def bindV {γ : Type} (x : Option (R (List Val))) (E : Nat → SCfg → γ) (K : List Val → SCfg → Option γ) : Option γ :=
  match x with
  | some (.ok vs c1) => K vs c1
  | some (.exit k c1) => some (E k c1)
  | none => none

def bind1 {γ : Type} (x : Option (R (List Opd))) (E : Nat → SCfg → γ) (K : Opd → SCfg → Option γ) : Option γ :=
  match x with
  | some (.ok [o] c1) => K o c1
  | some (.exit k c1) => some (E k c1)
  | _ => none

def bind2 {γ : Type} (ev : Expr → SCfg → Option (R (List Opd))) (l r : Expr) (c : SCfg) (E : Nat → SCfg → γ)
    (K : Opd → Opd → SCfg → Option γ) : Option γ :=
  bind1 (ev l c) E fun a c1 => bind1 (ev r c1) E fun b c2 => K a b c2

abbrev exitS (k : Nat) (c : SCfg) : SOut × SCfg := (.exit k, c)

/-- `K` after a statement that ended normally; any other outcome is passed on -/
def seqS (p : Option (SOut × SCfg)) (K : SCfg → Option (SOut × SCfg)) : Option (SOut × SCfg) :=
  match p with
  | some (.normal, c1) => K c1
  | r => r

/-- the optional statement of a loop (initialisation, increment), which has to end normally, then `K` -/
def bindO (ex : Stmt → SCfg → Option (SOut × SCfg)) (s : Option Stmt) (c : SCfg) (K : SCfg → Option (SOut × SCfg)) :
    Option (SOut × SCfg) :=
  match s with
  | some i =>
      match ex i c with
      | some (.normal, c1) => K c1
      | some (.exit k, c1) => some (.exit k, c1)
      | _ => none
  | none => K c

section
variable {γ : Type} {E : Nat → SCfg → γ} {r : γ}

theorem bindL_inv {x : Option (R (List Opd))} {K : List Opd → SCfg → Option γ} (h : bindL x E K = some r) :
    (∃ k c1, x = some (.exit k c1) ∧ r = E k c1) ∨ ∃ os c1, x = some (.ok os c1) ∧ K os c1 = some r := by
  unfold bindL at h
  split at h
  · exact .inr ⟨_, _, rfl, h⟩
  · exact .inl ⟨_, _, rfl, (Option.some.inj h).symm⟩
  · cases h

theorem bindV_inv {x : Option (R (List Val))} {K : List Val → SCfg → Option γ} (h : bindV x E K = some r) :
    (∃ k c1, x = some (.exit k c1) ∧ r = E k c1) ∨ ∃ vs c1, x = some (.ok vs c1) ∧ K vs c1 = some r := by
  unfold bindV at h
  split at h
  · exact .inr ⟨_, _, rfl, h⟩
  · exact .inl ⟨_, _, rfl, (Option.some.inj h).symm⟩
  · cases h

theorem bind1_inv {x : Option (R (List Opd))} {K : Opd → SCfg → Option γ} (h : bind1 x E K = some r) :
    (∃ k c1, x = some (.exit k c1) ∧ r = E k c1) ∨ ∃ o c1, x = some (.ok [o] c1) ∧ K o c1 = some r := by
  unfold bind1 at h
  split at h
  · exact .inr ⟨_, _, rfl, h⟩
  · exact .inl ⟨_, _, rfl, (Option.some.inj h).symm⟩
  · cases h

end

/-- a partial function `g` of the values the two operands have when the node is executed -/
def pure2 (g : Val → Val → Option Val) (a b : Opd) (c2 : SCfg) : Option (R (List Opd)) :=
  match resolve c2 a, resolve c2 b with
  | some va, some vb =>
      match g va vb with
      | some v => some (.ok [.lit v] c2)
      | none => none
  | _, _ => none

theorem pure2_some {g : Val → Val → Option Val} {a b : Opd} {c2 : SCfg} {res : R (List Opd)} (h : pure2 g a b c2 = some res) :
    ∃ va vb w, resolve c2 a = some va ∧ resolve c2 b = some vb ∧ g va vb = some w ∧ res = .ok [.lit w] c2 := by
  unfold pure2 at h
  split at h
  · rename_i va vb hva hvb
    split at h
    · rename_i w hw
      exact ⟨va, vb, w, hva, hvb, hw, (Option.some.inj h).symm⟩
    · cases h
  · cases h

def notT (o : Opd) (c1 : SCfg) : Option (R (List Opd)) :=
  match resolve c1 o with
  | some (.bool b) => some (.ok [.lit (.bool (!b))] c1)
  | _ => none

def sliceNewT (os : List Opd) (c1 : SCfg) : Option (R (List Opd)) :=
  match resolveAll c1 os with
  | some vs =>
      if inRange (c1.next + 1) then
        some (.ok [.lit (.slice (c1.next + 1))] { c1 with heap := hset c1.heap (c1.next + 1) vs, next := c1.next + 1 })
      else none
  | none => none

def indexT (a b : Opd) (c2 : SCfg) : Option (R (List Opd)) :=
  match resolve c2 a, resolve c2 b with
  | some (.slice id), some (.int k) =>
      match natOf k with
      | some i => match (c2.heap id)[i]? with
          | some v => some (.ok [.lit v] c2)
          | none => none
      | none => none
  | _, _ => none

def lenT (str : Bool) (a : Opd) (c1 : SCfg) : Option (R (List Opd)) :=
  match resolve c1 a with
  | some (.str s) => if str then some (.ok [.lit (.int s.length)] c1) else none
  | some (.slice id) => if str then none else some (.ok [.lit (.int (c1.heap id).length)] c1)
  | _ => none

def substr1T (a v : Opd) (c2 : SCfg) : Option (R (List Opd)) :=
  match resolve c2 a, resolve c2 v with
  | some (.int i), some (.str s) =>
      match natOf i with
      | some n => if n < s.length then some (.ok [.lit (.str (substrOf s n 1))] c2) else none
      | none => none
  | _, _ => none

def substr2T (a b v : Opd) (c3 : SCfg) : Option (R (List Opd)) :=
  match resolve c3 a, resolve c3 b, resolve c3 v with
  | some (.int i), some (.int j), some (.str s) =>
      match natOf i, natOf (j - i + 1) with
      | some n, some l => if n + l ≤ s.length then some (.ok [.lit (.str (substrOf s n l))] c3) else none
      | _, _ => none
  | _, _, _ => none

def copyT (dst : Var) (a : Opd) (c1 : SCfg) : Option (R (List Opd)) :=
  match resolve c1 a, readVar c1 dst with
  | some (.slice sid), some (.slice did) =>
      if did ≤ c1.next then
        some (.ok [.lit (.int (c1.heap sid).length)] { c1 with heap := hset c1.heap did (copyInto (c1.heap sid) (c1.heap did)) })
      else none
  | _, _ => none

section
variable {f : Nat} {c : SCfg}

theorem evalE_pos {fuel : Nat} {e : Expr} {res : R (List Opd)} (h : evalE fuel e c = some res) : ∃ f, fuel = f + 1 := by
  cases fuel with
  | zero => cases h
  | succ f => exact ⟨f, rfl⟩

theorem execS_pos {fuel : Nat} {st : Stmt} {p : SOut × SCfg} (h : execS fuel st c = some p) : ∃ f, fuel = f + 1 := by
  cases fuel with
  | zero => cases h
  | succ f => exact ⟨f, rfl⟩

section
variable {b : Bool} {n : Int} {s op name : String} {x dst : Var} {vt : ValueType} {rets : List ValueType} {dt : DataType}
  {e l r value index start stop src : Expr} {vals args rest : List Expr} {body : List Stmt} {el : List (Expr × List Stmt)}

theorem evalE_boolLit : evalE (f + 1) (.boolLit b) c = some (.ok [.lit (.bool b)] c) := rfl
theorem evalE_intLit : evalE (f + 1) (.intLit n) c = if inRange n then some (.ok [.lit (.int n)] c) else none := rfl
theorem evalE_strLit : evalE (f + 1) (.strLit s) c = if plainLit s then some (.ok [.lit (.str s)] c) else none := rfl
theorem evalE_varEval : evalE (f + 1) (.varEval x) c = some (.ok [.var x] c) := rfl
theorem evalE_group : evalE (f + 1) (.group e) c = evalE f e c := rfl

theorem evalE_itoa : evalE (f + 1) (.itoa e) c =
    bind1 (evalE f e c) .exit fun o c1 => some (.ok [.itoa o] c1) := rfl

theorem evalE_unary : evalE (f + 1) (.unary op e vt) c = if op == "!" then bind1 (evalE f e c) .exit notT else none := rfl

theorem evalE_binary : evalE (f + 1) (.binary op l r) c = bind2 (evalE f) l r c .exit (pure2 (binVal (Expr.valueType l) op)) := rfl
theorem evalE_compare : evalE (f + 1) (.compare op l r) c = bind2 (evalE f) l r c .exit (pure2 (cmpVal (Expr.valueType l) op)) := rfl

/- not by `rfl`: the clause matches on the two booleans itself -/
theorem evalE_logical : evalE (f + 1) (.logical op l r) c = bind2 (evalE f) l r c .exit (pure2 (logVal op)) := by
  show bind2 (evalE f) l r c R.exit (fun a b c2 => _) = _
  congr; funext a b c2
  unfold pure2
  rcases resolve c2 a with _ | (_ | x | _ | _) <;> rcases resolve c2 b with _ | (_ | y | _ | _) <;> try rfl
  simp only [logVal]
  split
  · rfl
  · split <;> rfl

/-- where the body of `fd` starts: its parameters hold `vals`, no other local variable exists -/
def enter (c1 : SCfg) (fd : FunDef) (vals : List Val) : SCfg :=
  { c1 with lenv := bindParams (fun _ => none) fd.params vals, inFn := true }

/-- from how the body ended; the caller's local variables and flag come back, unless the program ends -/
def callRet (rets : List ValueType) (c1 : SCfg) (p : Option (SOut × SCfg)) : Option (R (List Opd)) :=
  match p with
  | some (.ret vs, c2) =>
      if vs.length == rets.length then some (.ok (vs.map Opd.lit) { c2 with lenv := c1.lenv, inFn := c1.inFn }) else none
  | some (.normal, c2) =>
      if rets.length == 0 then some (.ok [] { c2 with lenv := c1.lenv, inFn := c1.inFn }) else none
  | some (.exit k, c2) => some (.exit k c2)
  | _ => none

theorem callRet_some {c1 : SCfg} {p : Option (SOut × SCfg)} {res : R (List Opd)} (h : callRet rets c1 p = some res) :
    ∃ o c2, p = some (o, c2) ∧
      ((∃ vs, (o = .ret vs ∨ o = .normal ∧ vs = []) ∧ vs.length = rets.length ∧
          res = .ok (vs.map Opd.lit) { c2 with lenv := c1.lenv, inFn := c1.inFn }) ∨
       ∃ k, o = .exit k ∧ res = .exit k c2) := by
  unfold callRet at h
  split at h
  · rename_i vs c2
    split at h
    · rename_i hl
      cases h
      exact ⟨_, c2, rfl, .inl ⟨vs, .inl rfl, eq_of_beq hl, rfl⟩⟩
    · cases h
  · rename_i c2
    split at h
    · rename_i hz
      cases h
      exact ⟨_, c2, rfl, .inl ⟨[], .inr ⟨rfl, rfl⟩, (eq_of_beq hz).symm, rfl⟩⟩
    · cases h
  · rename_i k c2
    cases h
    exact ⟨_, c2, rfl, .inr ⟨k, rfl, rfl⟩⟩
  · cases h

theorem evalE_call : evalE (f + 1) (.call name rets args) c =
    bindL (evalArgs f args c) .exit fun os c1 =>
      match resolveAll c1 os, lookupFun c1.funs name with
      | some vals, some fd =>
          if vals.length == fd.params.length && fd.rets.length == rets.length then
            callRet rets c1 (execSs f fd.body (enter c1 fd vals))
          else none
      | _, _ => none := rfl

theorem evalE_sliceNew : evalE (f + 1) (.sliceNew dt vals) c = bindL (evalArgs f vals c) .exit sliceNewT := rfl
theorem evalE_sliceEval : evalE (f + 1) (.sliceEval value index dt) c = bind2 (evalE f) value index c .exit indexT := rfl
theorem evalE_len : evalE (f + 1) (.len e) c = bind1 (evalE f e c) .exit (lenT (Expr.valueType e).isString) := rfl
theorem evalE_substr_none : evalE (f + 1) (.substr value start none) c = bind2 (evalE f) start value c .exit substr1T := rfl
theorem evalE_substr_some : evalE (f + 1) (.substr value start (some stop)) c =
    bind2 (evalE f) start stop c .exit fun a b c2 => bind1 (evalE f value c2) .exit (substr2T a b) := rfl
theorem evalE_copy : evalE (f + 1) (.copy dst src) c = bind1 (evalE f src c) .exit (copyT dst) := rfl

theorem evalArgs_nil : evalArgs (f + 1) [] c = some (.ok [] c) := rfl
theorem evalArgs_cons : evalArgs (f + 1) (e :: rest) c =
    bind1 (evalE f e c) .exit fun o c1 => bindL (evalArgs f rest c1) .exit fun os c2 => some (.ok (o :: os) c2) := rfl

theorem evalVals_nil : evalVals (f + 1) [] c = some (.ok [] c) := rfl
theorem evalVals_cons : evalVals (f + 1) (e :: rest) c =
    bind1 (evalE f e c) .exit fun o c1 =>
      match resolve c1 o with
      | some v => bindV (evalVals f rest c1) .exit fun vs c2 => some (.ok (v :: vs) c2)
      | none => none := rfl

theorem evalCs_nil : evalCs (f + 1) [] c = some (.ok [] c) := rfl
theorem evalCs_cons : evalCs (f + 1) ((e, body) :: el) c =
    bind1 (evalE f e c) .exit fun o c1 => bindL (evalCs f el c1) .exit fun os c2 => some (.ok (o :: os) c2) := rfl

end

/-- definition or assignment: all values first, then the stores -/
def storeVals (f : Nat) (vars : List Var) (vals : List Expr) (c : SCfg) : Option (SOut × SCfg) :=
  if vars.length == vals.length then
    bindV (evalVals f vals c) exitS fun vs c1 => some (.normal, storeVars c1 vars vs)
  else none

def storeCall (f : Nat) (vars : List Var) (call : Expr) (c : SCfg) : Option (SOut × SCfg) :=
  bindL (evalE f call c) exitS fun os c1 =>
    match resolveAll c1 os with
    | some vs => if vs.length == vars.length then some (.normal, storeVars c1 vars vs) else none
    | none => none

variable {name : String} {x : Var} {vars : List Var} {rets : List ValueType} {e index value call cond : Expr} {es vals args : List Expr}
  {st : Stmt} {init incr : Option Stmt} {sts body els : List Stmt} {p : Expr × List Stmt} {elifs el : List (Expr × List Stmt)}
  {v : Val} {bs : List Val}

theorem execS_varDef : execS (f + 1) (.varDef vars vals) c = storeVals f vars vals c := rfl
theorem execS_assign : execS (f + 1) (.assign vars vals) c = storeVals f vars vals c := rfl
theorem execS_varDefCall : execS (f + 1) (.varDefCall vars call) c = storeCall f vars call c := rfl
theorem execS_assignCall : execS (f + 1) (.assignCall vars call) c = storeCall f vars call c := rfl

theorem varDef_eq_assign (fuel : Nat) (vars : List Var) (vals : List Expr) (c : SCfg) :
    execS fuel (.varDef vars vals) c = execS fuel (.assign vars vals) c := by
  cases fuel <;> rfl

theorem varDefCall_eq_assignCall (fuel : Nat) (vars : List Var) (call : Expr) (c : SCfg) :
    execS fuel (.varDefCall vars call) c = execS fuel (.assignCall vars call) c := by
  cases fuel <;> rfl

def sliceAssignT (x : Var) (vt : ValueType) (a b : Opd) (c2 : SCfg) : Option (SOut × SCfg) :=
  match resolve c2 a, resolve c2 b, readVar c2 x, zeroVal vt with
  | some (.int k), some w, some (.slice id), some z =>
      match natOf k with
      | some i =>
          if id ≤ c2.next then some (.normal, { c2 with heap := hset c2.heap id (sahSet (c2.heap id) i w z) }) else none
      | none => none
  | _, _, _, _ => none

theorem execS_sliceAssign : execS (f + 1) (.sliceAssign x index value) c =
    bind2 (evalE f) index value c exitS (sliceAssignT x (Expr.valueType value)) := rfl

theorem execS_funcDef {pub : Bool} {params : List Var} : execS (f + 1) (.funcDef name pub rets params body) c =
      if c.inFn then none else some (.normal, { c with funs := { name := name, params := params, rets := rets, body := body } :: c.funs }) := rfl

theorem execS_ret : execS (f + 1) (.ret vals) c =
    bindL (evalArgs f vals c) exitS fun os c1 =>
      match resolveAll c1 os with
      | some vs => some (.ret vs, c1)
      | none => none := rfl

theorem execS_ifS : execS (f + 1) (.ifS cond body elifs els) c =
      bind1 (evalE f cond c) exitS fun o c1 => bindL (evalCs f elifs c1) exitS fun os c2 =>
        match resolve c2 o, resolveAll c2 os with
        | some (.bool b), some bs => if b then execSs f body c2 else execEl f elifs bs els c2
        | _, _ => none := rfl

theorem execS_forS : execS (f + 1) (.forS init cond incr body) c = bindO (execS f) init c (execLp f cond incr body) := rfl

theorem execS_brk : execS (f + 1) .brk c = some (.brk, c) := rfl
theorem execS_cont : execS (f + 1) .cont c = some (.cont, c) := rfl

theorem execS_print : execS (f + 1) (.print es) c =
    bindL (evalArgs f es c) exitS fun os c1 =>
      match resolveAll c1 os with
      | some vs => some (.normal, { c1 with out := c1.out ++ [" ".intercalate (vs.map Val.render)] })
      | none => none := rfl

theorem execS_panic : execS (f + 1) (.panic e) c =
    bind1 (evalE f e c) exitS fun o c1 =>
      match resolve c1 o with
      | some v => some (.exit 1, { c1 with out := c1.out ++ ["panic: " ++ v.render] })
      | none => none := rfl

theorem execS_expr_call : execS (f + 1) (.expr (.call name rets args)) c =
    bindL (evalE f (.call name rets args) c) exitS fun _ c1 => some (.normal, c1) := rfl

theorem execSs_nil : execSs (f + 1) [] c = some (.normal, c) := rfl
theorem execSs_cons : execSs (f + 1) (st :: sts) c = seqS (execS f st c) (execSs f sts) := rfl

theorem execEl_cons : execEl (f + 1) ((e, body) :: el) (v :: bs) els c =
    match v with
    | .bool true => execSs f body c
    | .bool false => execEl f el bs els c
    | _ => none := rfl
theorem execEl_nil : execEl (f + 1) [] bs els c = execSs f els c := rfl
theorem execEl_cons_nil : execEl (f + 1) (p :: el) [] els c = execSs f els c := rfl

/-- after the body of a loop, from its outcome `p` -/
def loopNext (f : Nat) (cond : Expr) (incr : Option Stmt) (body : List Stmt) (p : Option (SOut × SCfg)) : Option (SOut × SCfg) :=
  match p with
  | some (.brk, c1) => some (.normal, c1)
  | some (.exit k, c1) => some (.exit k, c1)
  | some (.ret vs, c1) => some (.ret vs, c1)
  | some (_, c1) => bindO (execS f) incr c1 (execLp f cond incr body)
  | none => none

theorem execLp_succ : execLp (f + 1) cond incr body c =
    bind1 (evalE f cond c) exitS fun o c0 =>
      match resolve c0 o with
      | some (.bool true) => loopNext f cond incr body (execSs f body c0)
      | some (.bool false) => some (.normal, c0)
      | _ => none := rfl

end

theorem resolveAll_cons {c : SCfg} {o : Opd} {os : List Opd} {vs : List Val} (h : resolveAll c (o :: os) = some vs) :
    ∃ v vs', resolve c o = some v ∧ resolveAll c os = some vs' ∧ vs = v :: vs' := by
  simp only [resolveAll] at h
  split at h
  · rename_i v vs' hv hvs
    cases h
    exact ⟨v, vs', hv, hvs, rfl⟩
  · cases h

theorem resolveAll_lits (c : SCfg) : ∀ (vs : List Val), resolveAll c (vs.map Opd.lit) = some vs
  | [] => rfl
  | v :: vs => by simp [resolveAll, resolve, resolveAll_lits c vs]

theorem resolve_congr {c c' : SCfg} (h : ∀ x, readVar c' x = readVar c x) : ∀ o, resolve c' o = resolve c o
  | .lit _ => rfl
  | .var x => h x
  | .itoa o => by simp only [resolve, resolve_congr h o]

theorem resolveAll_congr {c c' : SCfg} (h : ∀ x, readVar c' x = readVar c x) : ∀ os, resolveAll c' os = resolveAll c os
  | [] => rfl
  | o :: os => by simp only [resolveAll, resolve_congr h o, resolveAll_congr h os]

theorem evalCs_eq_args : ∀ (fuel : Nat) (elifs : List (Expr × List Stmt)) (c : SCfg), evalCs fuel elifs c = evalArgs fuel (elifs.map Prod.fst) c
  | 0, _, _ => rfl
  | f + 1, [], c => rfl
  | f + 1, (e, b) :: rest, c => by
    rw [evalCs_cons, List.map_cons, evalArgs_cons]
    simp only [evalCs_eq_args f rest]

theorem execSs_cons_cases {fuel : Nat} {st : Stmt} {rest : List Stmt} {c c' : SCfg} {o : SOut}
    (h : execSs fuel (st :: rest) c = some (o, c')) :
    (∃ f1, execS f1 st c = some (o, c') ∧ o ≠ .normal) ∨
    (∃ f1 f2 c1, execS f1 st c = some (.normal, c1) ∧ execSs f2 rest c1 = some (o, c')) := by
  cases fuel with
  | zero => cases h
  | succ f =>
    rw [execSs_cons] at h
    unfold seqS at h
    split at h
    · rename_i c1 h1
      exact .inr ⟨f, f, c1, h1, h⟩
    · rename_i hr
      exact .inl ⟨f, h, fun e => hr c' (e ▸ h)⟩

theorem src_el_done {fuel : Nat} {elifs : List (Expr × List Stmt)} {bs : List Val} {els : List Stmt} {c c' : SCfg} {o : SOut}
    (hd : elifs = [] ∨ bs = []) (hs : execEl fuel elifs bs els c = some (o, c')) : ∃ f, execSs f els c = some (o, c') := by
  cases fuel with
  | zero => cases hs
  | succ f =>
    refine ⟨f, ?_⟩
    rcases hd with rfl | rfl
    · exact hs
    · cases elifs <;> exact hs

theorem src_funcDef {fuel : Nat} {name : String} {pub : Bool} {rets : List ValueType} {params : List Var} {body : List Stmt}
    {c c' : SCfg} {o : SOut} (hin : c.inFn = false) (h : execS fuel (.funcDef name pub rets params body) c = some (o, c')) :
    o = .normal ∧ c' = { c with funs := { name := name, params := params, rets := rets, body := body } :: c.funs } := by
  obtain ⟨f, rfl⟩ := execS_pos h
  rw [execS_funcDef, if_neg (by simp [hin])] at h
  cases h
  exact ⟨rfl, rfl⟩

end Tsh.Sem2.Src
