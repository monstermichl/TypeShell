/-
  One walk over the statement parser, with no panic (`Post`), for every pass.  A pass (`Pass`) proves, under an environment kept
  in step with the context (declared signatures, visible variables, the scope stack; nothing, for typing), a property that the
  rules of `StmtRule` keep; the rules say what the parser has checked when it builds a statement, how the context moves
  (`register`) and in which scope a block is parsed (`push`).  The definition, the function definition and the loop are
  parameters: a pass reads them off their run records (Lemmas/ParserStmtRuns).
  A NEW PASS gives an `ExprRule`, a `Pass`, a `StmtRule` and the three readings and takes `exprWalk` / `stmtWalk` of them; for whole
  files see the head of Lemmas/ParserFiles.
-/
import TshVerif.Lemmas.ParserExprWalk
namespace Tsh.Parser
open Tsh Tsh.Tr Tsh.LexTables

/-- `In env ctx`: the environment describes the context; `okC`: of a condition, `okTag`: of a switch tag; `decl env st`: the
    environment after `st`; `push env s`: that of a block with scope `s`.  Instances are `@[reducible]`: rules are closed by `rfl`. -/
structure Pass (E : Type) where
  In : E → Ctx → Prop
  okE : E → Expr → Prop
  okEs : E → List Expr → Prop
  okArgs : E → Option (List Var) → List Expr → Prop
  okC : E → Expr → Prop
  okTag : E → Expr → Prop
  okS : E → Stmt → Prop
  okSs : E → List Stmt → Prop
  okEl : E → List (Expr × List Stmt) → Prop
  decl : E → Stmt → E
  push : E → Scope → E
  /-- the scopes a block inside a statement may push; placement excludes `program`, so its file level does that push by hand
      (`placeIH_all`) and cannot take `ownStatements_pass` -/
  pushOK : Scope → Prop

/-- the checks on the tag of a switch: a single value -/
def tagOK (tag : Expr) : Prop :=
  (Expr.valueType tag).isSlice = false ∧ (Expr.valueType tag).dt ≠ .unknown ∧ (Expr.valueType tag).dt ≠ .multiple

def branchScope (s : Scope) : Prop := s = .if_ ∨ s = .switch_

/-- the variables an assignment assigns to: found in the context, one per type -/
structure Targets (ctx : Ctx) (vars : List Var) (ts : List ValueType) : Prop where
  ne : vars ≠ []
  types : PT.varsMatch vars ts = true
  found : ∀ v ∈ vars, ∃ name pfx g, ctx.findVar name pfx g = some v

structure StmtRule {E : Type} (T : Pass E) : Prop where
  expr : ∀ env, ExprRule (T.In env) (T.okE env) (T.okEs env) (T.okArgs env)
  push : ∀ {env ctx s}, T.In env ctx → T.pushOK s → T.In (T.push env s) (ctx.push s)
  pushBranch : ∀ {s}, branchScope s → T.pushOK s
  register : ∀ {env c c' st}, T.In env c → T.okS env st → Enters st c c' → T.In (T.decl env st) c'
  nilS : ∀ {env}, T.okSs env []
  /-- registered: placement needs of it that a function definition has a non-empty name -/
  snocS : ∀ {env acc st c c' pfx g}, registerDefs c pfx g st = some c' → T.okSs env acc → T.okS (acc.foldl T.decl env) st →
    T.okSs env (acc ++ [st])
  nilEl : ∀ {env}, T.okEl env []
  snocEl : ∀ {env s a c b}, branchScope s → T.okEl env a → T.okC env c → T.okSs (T.push env s) b → T.okEl env (a ++ [(c, b)])
  ifS : ∀ {env s c body elifs els}, branchScope s → T.okC env c → T.okSs (T.push env s) body → T.okEl env elifs →
    T.okSs (T.push env s) els → T.okS env (.ifS c body elifs els)
  cond : ∀ {env c}, T.okE env c → (Expr.valueType c).isBool = true → T.okC env c
  condLit : ∀ {env b}, T.okC env (.boolLit b)
  tag : ∀ {env tag}, T.okE env tag → tagOK tag → T.okTag env tag
  tagLit : ∀ {env}, T.okTag env (.boolLit true)
  caseCond : ∀ {env tag e}, T.okTag env tag → T.okE env e → (Expr.valueType tag).equals (Expr.valueType e) = true →
    T.okC env (.compare "==" tag e)
  assign : ∀ {env ctx vars values}, T.In env ctx → Targets ctx vars (valuesTypes values) → T.okEs env values →
    ValsShape true values → multiReturnTypes values = none → T.okS env (.assign vars values)
  assignCall : ∀ {env ctx vars call ts}, T.In env ctx → Targets ctx vars (valuesTypes [call]) → T.okE env call →
    multiReturnTypes [call] = some ts → T.okS env (.assignCall vars call)
  compound : ∀ {env ctx name pfx g v op value}, T.In env ctx → ctx.findVar name pfx g = some v → T.okE env value →
    Expr.valueType value = v.vt → (allowedBinary (Expr.valueType value)).contains op = true →
    T.okS env (.assign [v] [.binary op (.varEval v) value])
  sliceAssign : ∀ {env ctx name pfx g v i x}, T.In env ctx → ctx.findVar name pfx g = some v → v.vt.isSlice = true →
    T.okE env i → (Expr.valueType i).isInt = true → T.okE env x → (Expr.valueType x).equals ⟨v.vt.dt, false⟩ = true →
    T.okS env (.sliceAssign v i x)
  incDec : ∀ {env ctx name pfx g v} b, T.In env ctx → ctx.findVar name pfx g = some v → v.vt.isInt = true →
    T.okS env (incDecStmt v b)
  ret : ∀ {env ctx vals}, T.In env ctx → ctx.findScope .function = true → T.okEs env vals → T.okS env (.ret vals)
  brk : ∀ {env ctx}, T.In env ctx → (ctx.findScope .for_ || ctx.findScope .switch_) = true → T.okS env .brk
  cont : ∀ {env ctx}, T.In env ctx → ctx.findScope .for_ = true → T.okS env .cont
  print : ∀ {env vals}, T.okEs env vals → Valued vals → T.okS env (.print vals)
  write : ∀ {env p d a}, T.okE env p → T.okE env d → (Expr.valueType p).isString = true → (Expr.valueType d).isString = true →
    (a = .boolLit false ∨ (T.okE env a ∧ (Expr.valueType a).isBool = true)) → T.okS env (.expr (.write p d (some a)))
  panicS : ∀ {env e}, T.okE env e → (Expr.valueType e).dt ≠ .unknown → T.okS env (.panic e)
  exprS : ∀ {env e}, T.okE env e → e.isCallLike = true → T.okS env (.expr e)

/-- a block also satisfies its callback `cb` (the check of a function body's `return`s) -/
structure BlockIH {E : Type} (T : Pass E) (fuel : Nat) : Prop where
  blockContent : ∀ env terms cb ctx scope, T.In env ctx → T.pushOK scope →
    Post (evalBlockContent fuel terms cb ctx scope) (fun ss => T.okSs (T.push env scope) ss ∧ cb ss true = true)
  blockLoop : ∀ env terms cb ctx acc, T.In (acc.foldl T.decl env) ctx → T.okSs env acc →
    Post (evalBlockLoop fuel terms cb ctx acc) (fun ss => T.okSs env ss ∧ cb ss true = true)
  block : ∀ env cb ctx scope, T.In env ctx → T.pushOK scope →
    Post (evalBlock fuel cb ctx scope) (fun ss => T.okSs (T.push env scope) ss ∧ cb ss true = true)
  functionDefinition : ∀ env ctx, T.In env ctx → Post (evalFunctionDefinition fuel ctx) (T.okS env)
  if_ : ∀ env ctx, T.In env ctx → Post (evalIf fuel ctx) (T.okS env)
  ifRest : ∀ env ctx c body elifs els, T.In env ctx → T.okC env c →
    T.okSs (T.push env .if_) body → T.okEl env elifs → T.okSs (T.push env .if_) els →
    Post (evalIfRest fuel ctx c body elifs els) (T.okS env)
  switch : ∀ env ctx, T.In env ctx → Post (evalSwitch fuel ctx) (T.okS env)
  cases : ∀ env ctx tag first elifs dflt, T.In env ctx → T.okTag env tag →
    (∀ c b, first = some (c, b) → T.okC env c ∧ T.okSs (T.push env .switch_) b) →
    T.okEl env elifs → (∀ d, dflt = some d → T.okSs (T.push env .switch_) d) →
    Post (evalCases fuel ctx tag first elifs dflt) (T.okS env)
  for_ : ∀ env ctx, T.In env ctx → Post (evalFor fuel ctx) (T.okS env)
  statement : ∀ env ctx, T.In env ctx → Post (evalStatement fuel ctx) (T.okS env)

variable {E : Type} {T : Pass E} {fuel : Nat}

theorem one_value {first : Bool} {values : List Expr} (hs : ValsShape first values) (hlen : ¬(valuesTypes values).length > 1) :
    ∃ value, values = [value] ∧ valuesTypes [value] = [Expr.valueType value] := by
  cases hm : multiReturnTypes values with
  | some ts =>
    obtain ⟨call, rfl⟩ := multi_single hm
    refine absurd ?_ hlen
    simp only [valuesTypes, hm]
    unfold multiReturnTypes at hm
    split at hm
    · split at hm
      · cases hm; assumption
      · cases hm
    · cases hm; decide
    · cases hm
  | none =>
    have ht : valuesTypes values = values.map Expr.valueType := by simp [valuesTypes, hm]
    rw [ht, List.length_map] at hlen
    obtain ⟨value, rfl⟩ := List.length_eq_one_iff (l := values) |>.mp (by have := List.length_pos_iff.mpr hs.1; omega)
    exact ⟨value, rfl, ht⟩

section
variable (R : StmtRule T) {env : E} {ctx : Ctx} (hc : T.In env ctx)
include R hc

theorem w_compound : Post (evalCompoundAssignment fuel ctx) (T.okS env) := by
  unfold evalCompoundAssignment
  refine Post.bind' (varNames_post fuel) fun names hnames => ?_
  split
  · rename_i nameTok
    refine Post.expect fun a _ => Post.bind' ((exprWalk (R.expr env) fuel).values ctx true hc) fun values hvals => ?_
    pm_zeta
    refine Post.guard fun hlen => Post.bindAny fun s => ?_
    -- the one type is the type of the one value: the crash site (no value to assign) is not reached
    obtain ⟨value, rfl, ht⟩ := one_value hvals.2 hlen
    rw [ht]
    cases hf : ctx.findVar nameTok.val s.pfx ctx.global with
    | none => exact Post.err
    | some v =>
      dsimp only
      refine Post.unless fun heq => Post.unless fun hop => Post.pure' ?_
      exact R.compound hc hf ((R.expr env).single hvals.1) (by simpa using heq) hop
  · exact Post.unreachable (hnames rfl)
  · exact Post.err

theorem w_varAssignment : Post (evalVarAssignment fuel ctx) (T.okS env) := by
  unfold evalVarAssignment
  refine Post.bind' (varNames_post fuel) fun names hnames => Post.expect fun a _ => ?_
  refine Post.bind' ((exprWalk (R.expr env) fuel).values ctx true hc) fun values hvals => ?_
  pm_zeta
  refine Post.guard fun hlen => Post.bindAny fun s => ?_
  refine Post.bind' (Post.ofOpt fun vars h => mapM_zip_match (K := fun v => ∃ name pfx g, ctx.findVar name pfx g = some v) h
    (by simpa using hlen) fun t vt _ v hf => ?_) fun vars hv => ?_
  · dsimp only at hf
    split at hf
    · rename_i w hw
      split at hf
      · rename_i heq
        cases hf
        exact ⟨beq_iff_eq.mp heq ▸ equals_refl _, _, _, _, hw⟩
      · cases hf
    · cases hf
  · have ht : Targets ctx vars (valuesTypes values) :=
      ⟨fun e => hnames (List.length_eq_zero_iff.mp (by rw [← hv.2.2, e]; rfl)), hv.1, hv.2.1⟩
    split
    · rename_i _ _ call hts
      exact Post.pure' (R.assignCall hc ht ((R.expr env).single hvals.1) hts)
    · exact Post.pure' (R.assign hc ht hvals.1 hvals.2 (multi_none ‹_›))

theorem w_sliceAssignment : Post (evalSliceAssignment fuel ctx) (T.okS env) := by
  unfold evalSliceAssignment
  refine Post.expect fun nameTok _ => Post.bindAny fun s => ?_
  split
  · exact Post.err
  rename_i v hf
  refine Post.unless fun hsl => Post.expect fun o _ => Post.bind' ((exprWalk (R.expr env) fuel).expression ctx hc) fun index hi => ?_
  refine Post.unless fun hint => Post.expect fun c _ => Post.expect fun a _ => ?_
  refine Post.bind' ((exprWalk (R.expr env) fuel).expression ctx hc) fun value hval => Post.unless fun heq => Post.pure' ?_
  exact R.sliceAssign hc hf hsl hi hint hval heq

theorem w_incDec : Post (evalIncDec ctx) (T.okS env) := by
  unfold evalIncDec
  refine Post.expect fun t _ => Post.bindAny fun s => ?_
  split
  · exact Post.err
  rename_i v hf
  refine Post.unless fun hint => Post.bindAny fun o => ?_
  exact Post.ite' (fun _ => Post.pure' (R.incDec true hc hf hint)) fun _ =>
    Post.ite' (fun _ => Post.pure' (R.incDec false hc hf hint)) fun _ => Post.err

end

/-- `hfunc`, `hfor` at `fuel + 1`: a reading runs the parts of `evalFor (fuel + 1)` at `fuel`, with `ih` for them -/
theorem stmtWalk_succ (R : StmtRule T) (ih : BlockIH T fuel)
    (hdef : ∀ env ctx, T.In env ctx → Post (evalVarDefinition fuel ctx) (T.okS env))
    (hfunc : ∀ env ctx, T.In env ctx → Post (evalFunctionDefinition (fuel + 1) ctx) (T.okS env))
    (hfor : ∀ env ctx, T.In env ctx → Post (evalFor (fuel + 1) ctx) (T.okS env)) : BlockIH T (fuel + 1) where
  blockContent env terms cb ctx scope hc hs := by
    unfold evalBlockContent
    exact ih.blockLoop _ _ _ _ _ (R.push hc hs) R.nilS
  blockLoop env terms cb ctx acc hc hacc := by
    unfold evalBlockLoop
    refine Post.bindAny fun t => Post.branch (Post.ite' (fun h => Post.pure' ⟨hacc, h⟩) fun _ => Post.err) ?_
    refine Post.bind' (P := fun (x : Ctx × List Stmt) => T.In (x.2.foldl T.decl env) x.1 ∧ T.okSs env x.2) ?_ ?_
    · refine Post.branch (Post.pure' ⟨hc, hacc⟩) (Post.bind' (ih.statement _ ctx hc) fun st hst => Post.bindAny fun s => ?_)
      refine Post.bind' (P := fun c => T.In ((acc ++ [st]).foldl T.decl env) c ∧ T.okSs env (acc ++ [st])) (Post.ofOpt fun c h => by
        rw [List.foldl_append]; exact ⟨R.register hc hst (registerDefs_enters h), R.snocS h hacc hst⟩) fun ctx' hc' => ?_
      pm_zeta
      exact Post.ite' (fun _ => Post.pure' hc') fun _ => Post.err
    rintro ⟨ctx', acc'⟩ ⟨hc', hacc'⟩
    refine Post.bindAny fun n => Post.branch (Post.bindAny fun _ => ih.blockLoop _ _ _ _ _ hc' hacc') ?_
    exact Post.branch (ih.blockLoop _ _ _ _ _ hc' hacc') Post.err
  block env cb ctx scope hc hs := by
    unfold evalBlock
    refine Post.expect fun b _ => Post.expect fun n _ => Post.bind' (ih.blockContent _ _ _ _ _ hc hs) fun ss hss => ?_
    exact Post.expect fun e _ => Post.pure' hss
  if_ env ctx hc := by
    unfold evalIf
    refine Post.bindAny fun t => Post.guard fun _ => Post.bindAny fun _ => ?_
    refine Post.bind' ((exprWalk (R.expr env) fuel).expression ctx hc) fun c hcnd => Post.unless fun hb => ?_
    refine Post.bind' (ih.block _ _ _ _ hc (R.pushBranch (.inl rfl))) fun body hbody => ?_
    exact ih.ifRest _ _ _ _ _ _ hc (R.cond hcnd hb) hbody.1 R.nilEl R.nilS
  ifRest env ctx c body elifs els hc hcnd hbody helifs hels := by
    unfold evalIfRest
    refine Post.bindAny fun t => Post.branch (Post.pure' (R.ifS (.inl rfl) hcnd hbody helifs hels))
      (Post.bindAny fun _ => Post.bindAny fun n => Post.branch ?_ ?_)
    · exact Post.bind' (ih.block _ _ _ _ hc (R.pushBranch (.inl rfl))) fun b hbl => ih.ifRest _ _ _ _ _ _ hc hcnd hbody helifs hbl.1
    · refine Post.bindAny fun _ => Post.bind' ((exprWalk (R.expr env) fuel).expression ctx hc) fun ec hec => Post.unless fun heb => ?_
      refine Post.bind' (ih.block _ _ _ _ hc (R.pushBranch (.inl rfl))) fun b hbl => ?_
      exact ih.ifRest _ _ _ _ _ _ hc hcnd hbody (R.snocEl (.inl rfl) helifs (R.cond hec heb) hbl.1) hels
  switch env ctx hc := by
    unfold evalSwitch
    refine Post.expect fun sw _ => Post.bindAny fun t => ?_
    refine Post.bind' (P := fun tag => tagOK tag → T.okTag env tag) ?_ fun tag htag => ?_
    · exact Post.branch (Post.pure' fun _ => R.tagLit) (((exprWalk (R.expr env) fuel).expression ctx hc).mono fun _ h => R.tag h)
    refine Post.guard fun h1 => Post.guard fun h2 => Post.expect fun b _ => Post.expect fun n _ => ?_
    refine Post.bind' (skipNewlines_any fuel) fun _ _ => ih.cases _ _ _ _ _ _ hc (htag ?_) (by simp) R.nilEl (by simp)
    simpa [tagOK] using And.intro h1 h2
  cases env ctx tag first elifs dflt hc htag hfirst helifs hdflt := by
    unfold evalCases
    refine Post.bindAny fun t => Post.branch (Post.bindAny fun _ => Post.pure' ?_) ?_
    · have hd : T.okSs (T.push env .switch_) (dflt.getD []) := by
        cases dflt with
        | none => exact R.nilS
        | some d => exact hdflt d rfl
      cases first with
      | none => exact R.ifS (.inr rfl) R.condLit R.nilS helifs hd
      | some p => exact R.ifS (.inr rfl) (hfirst p.1 p.2 rfl).1 (hfirst p.1 p.2 rfl).2 helifs hd
    refine Post.bind' (P := fun (cmp : Option Expr) => ∀ e, cmp = some e → T.okE env e) ?_ fun cmp hcmp => ?_
    · refine Post.branch (Post.bindAny fun _ => Post.bind' ((exprWalk (R.expr env) fuel).expression ctx hc) fun e he => Post.pure' ?_) ?_
      · rintro _ ⟨⟩; exact he
      · exact Post.branch (Post.bindAny fun _ => Post.pure' (by rintro _ ⟨⟩)) Post.err
    refine Post.expect fun colon _ => Post.bind' (ih.blockContent _ _ _ _ _ hc (R.pushBranch (.inr rfl))) fun stmts hstmts => ?_
    split
    · rename_i e
      refine Post.unless fun heq => ?_
      have hcnd := R.caseCond htag (hcmp e rfl) heq
      dsimp only
      split
      · refine ih.cases _ _ _ _ _ _ hc htag ?_ helifs hdflt
        rintro c b ⟨⟩
        exact ⟨hcnd, hstmts.1⟩
      · exact ih.cases _ _ _ _ _ _ hc htag hfirst (R.snocEl (.inr rfl) helifs hcnd hstmts.1) hdflt
    · split
      · refine ih.cases _ _ _ _ _ _ hc htag hfirst helifs ?_
        rintro d ⟨⟩
        exact hstmts.1
      · exact Post.err
  functionDefinition := hfunc
  for_ := hfor
  statement env ctx hc := by
    have X := R.expr env
    have W := exprWalk X fuel
    unfold evalStatement
    refine Post.bindAny fun t => ?_
    refine Post.branch (hdef env ctx hc) ?_
    refine Post.branch (ih.functionDefinition env ctx hc) ?_
    refine Post.branch (Post.bindAny fun _ => Post.unless fun hfn => Post.bind' (W.values ctx true hc) fun vals hv =>
      Post.pure' (R.ret hc hfn hv.1)) ?_
    refine Post.branch (ih.if_ env ctx hc) ?_
    refine Post.branch (ih.switch env ctx hc) ?_
    refine Post.branch (ih.for_ env ctx hc) ?_
    refine Post.branch (Post.bindAny fun _ => Post.ite' (fun h => Post.pure' (R.brk hc h)) fun _ => Post.err) ?_
    refine Post.branch (Post.bindAny fun _ => Post.ite' (fun h => Post.pure' (R.cont hc h)) fun _ => Post.err) ?_
    refine Post.branch (Post.bind' (W.builtin ctx _ _ _ hc) fun args ha => Post.pure' (R.print ha.1.1 ha.1.2)) ?_
    refine Post.branch (Post.bind' (W.builtin ctx _ _ _ hc) ?_) ?_
    · -- two or three arguments, after the arity check of `evaluateBuiltInFunction`
      rintro args ⟨⟨ha, -⟩, hmin, hmax⟩
      have hmax3 := hmax 3 rfl
      rcases args with _ | ⟨p, _ | ⟨d, _ | ⟨a, _ | _⟩⟩⟩
      · simp at hmin
      · simp at hmin
      · have h2 := X.uncons ha
        exact Post.unless fun hp => Post.unless fun hd => Post.pure' (R.write h2.1 (X.single h2.2) hp hd (.inl rfl))
      · have h2 := X.uncons ha
        have h3 := X.uncons h2.2
        exact Post.unless fun hp => Post.unless fun hd => Post.unless fun hab =>
          Post.pure' (R.write h2.1 h3.1 hp hd (.inr ⟨X.single h3.2, hab⟩))
      · simp at hmax3
    refine Post.branch (Post.bind' (W.builtin ctx _ _ _ hc) fun args ⟨⟨ha, hv⟩, hmin, hmax⟩ => ?_) ?_
    · obtain ⟨e, rfl⟩ := len1 hmin hmax
      exact Post.pure' (R.panicS (X.single ha) (hv e (List.mem_cons_self ..)))
    refine Post.bindAny fun short => Post.branch (hdef env ctx hc) ?_
    refine Post.bindAny fun s => Post.bindAny fun t1 => ?_
    refine Post.branch (w_incDec R hc) ?_
    refine Post.branch (w_compound R hc) ?_
    refine Post.branch (w_varAssignment R hc) ?_
    refine Post.branch (w_sliceAssignment R hc) ?_
    refine Post.bind' (W.expression ctx hc) fun e he => ?_
    split <;> first
      | exact Post.err
      | exact Post.pure' (R.exprS he rfl)

theorem stmtWalk (R : StmtRule T) (hdef : ∀ fuel env ctx, T.In env ctx → Post (evalVarDefinition fuel ctx) (T.okS env))
    (hfunc : ∀ fuel, BlockIH T fuel → ∀ env ctx, T.In env ctx → Post (evalFunctionDefinition (fuel + 1) ctx) (T.okS env))
    (hfor : ∀ fuel, BlockIH T fuel → ∀ env ctx, T.In env ctx → Post (evalFor (fuel + 1) ctx) (T.okS env)) :
    ∀ fuel, BlockIH T fuel
  | 0 => by constructor <;> intros <;> with_unfolding_all exact Post.div
  | fuel + 1 =>
    have w := stmtWalk R hdef hfunc hfor fuel
    stmtWalk_succ R w (hdef fuel) (hfunc fuel w) (hfor fuel w)

end Tsh.Parser
