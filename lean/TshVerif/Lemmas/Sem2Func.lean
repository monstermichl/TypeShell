/-
  Function definitions: the parameter lines bind the arguments, the body runs in its own context, everything the
  function writes is its own (or global) - which is what the table promises to later callers (`body_sim`).
-/
import TshVerif.Lemmas.Sem2Prog
import TshVerif.Lemmas.Sem2Rel
namespace Tsh.Sem2
open Tsh Tsh.Tr Tsh.Bash Tsh.Sem Tsh.Sem2.Src
open Tsh.Sem.Src (Val Env)

attribute [local irreducible] Store.set  -- as in Sem2Sim

/-- the names function number `j` owns: its locals, helpers and temporaries (`Ctx.mg`) -/
def Pref (j : Nat) (n : String) : Prop := ∃ a, n = fnPrefix j ++ a

theorem varName_fn (s : St) (hf : inFunction s = true) : (varName s · false) = (fnPrefix s.funcCounter ++ ·) :=
  funext fun p => by rw [varName_ctx]; simp [Ctx.mg, ctxOf, hf]

/-- executing the parameter lines: parameter `k` gets argument `i + k` -/
theorem params_sem (j : Nat) : ∀ (ps : List Var) (vals : List Val) (i : Nat) (m : Cfg) (pre : List Val) (env0 : Env),
    m.args = (pre ++ vals).map Val.render → pre.length = i → vals.length = ps.length →
    (∀ x v, env0 x = some v → m.ρ (fnPrefix j ++ x) = v.render) →
    ∃ m', ExecCmds ((C02.paramLines (fnPrefix j ++ ·) (ps.map (·.name)) i).map Cmd.simple) m .normal m' ∧
      (∀ x v, bindParams env0 ps vals x = some v → m'.ρ (fnPrefix j ++ x) = v.render) ∧
      (∀ y, (∀ a, y ≠ fnPrefix j ++ a) → m'.ρ y = m.ρ y) ∧ m'.out = m.out ∧ m'.funs = m.funs ∧ m'.arr = m.arr
  | [], vals, i, m, pre, env0, _, _, hl, henv => by
    have : vals = [] := List.eq_nil_of_length_eq_zero (by simpa using hl)
    subst this
    exact ⟨m, by simp [C02.paramLines]; exact ExecCmds.nil, by simpa [bindParams] using henv, fun _ _ => rfl, rfl, rfl, rfl⟩
  | x :: xs, vals, i, m, pre, env0, ha, hp, hl, henv => by
    match vals, hl with
    | v :: vs, hl =>
      have hget : m.args.getD i "" = v.render := by
        rw [ha, List.map_append, List.getD_eq_getElem?_getD, List.getElem?_append_right (by simp [hp])]
        simp [hp]
      have hst : stepSimple (.localAssign (fnPrefix j ++ x.name) (i + 1)) m =
          some (.normal, { m with ρ := m.ρ.set (fnPrefix j ++ x.name) v.render, saved := (fnPrefix j ++ x.name, m.ρ (fnPrefix j ++ x.name)) :: m.saved }) := by
        simp only [stepSimple, Nat.add_sub_cancel, hget]
      have henv1 : ∀ y w, (env0.set x.name v) y = some w → (m.ρ.set (fnPrefix j ++ x.name) v.render) (fnPrefix j ++ y) = w.render := by
        intro y w hy
        by_cases e : y = x.name
        · subst e
          simp only [Sem.Src.Env.set, if_true, Option.some.injEq] at hy
          subst hy
          exact Sem.set_same _ _ _
        · simp only [Sem.Src.Env.set, e, if_false] at hy
          rw [Sem.set_other _ _ _ _ (fun e' => e (fnPrefix_inj e').2)]
          exact henv y w hy
      obtain ⟨m', ex, hb, hfr, ho, hfu, harr⟩ := params_sem j xs vs (i + 1)
        { m with ρ := m.ρ.set (fnPrefix j ++ x.name) v.render, saved := (fnPrefix j ++ x.name, m.ρ (fnPrefix j ++ x.name)) :: m.saved }
        (pre ++ [v]) (env0.set x.name v) (by show m.args = _; rw [ha]; simp) (by simp [hp]) (by simpa using hl) henv1
      refine ⟨m', ?_, hb, ?_, ho, hfu, harr⟩
      · simp only [List.map_cons, C02.paramLines]
        exact ExecCmds.cons (ExecCmd.simple rfl hst) ex
      · intro y hy
        rw [hfr y hy]
        exact Sem.set_other _ _ _ _ (hy x.name)
    | [], hl => simp at hl

theorem bindParams_good : ∀ (ps : List Var) (vals : List Val) (env0 : Env) (x : String) (v : Val),
    (ps.all (fun p => goodName2 p.name)) = true → (∀ y w, env0 y = some w → goodName2 y = true) →
    bindParams env0 ps vals x = some v → goodName2 x = true
  | [], _, env0, x, v, _, h0, h | p :: ps, [], env0, x, v, _, h0, h => h0 x v (by simpa [bindParams] using h)
  | p :: ps, w :: ws, env0, x, v, hg, h0, h => by
    simp only [List.all_cons, Bool.and_eq_true] at hg
    simp only [bindParams] at h
    refine bindParams_good ps ws (env0.set p.name w) x v hg.2 ?_ h
    intro y w' hy
    by_cases e : y = p.name
    · subst e; exact hg.1
    · simp only [Sem.Src.Env.set, e, if_false] at hy
      exact h0 y w' hy

theorem ownT_touched {j hi b : Nat} (hb : hi ≤ b) {x : String} (h : OwnT ⟨true, j⟩ hi x) : Touched j b x := by
  rcases h with ⟨k, rfl⟩ | ⟨k, rfl⟩ | ⟨v, g, hg, rfl⟩ | ⟨i, rfl⟩ | ⟨n, hn, rfl⟩ | hsp
  · exact Or.inl ⟨j, helperName k, Nat.le_refl _, by simp [Ctx.hn, Ctx.mg]⟩
  · exact Or.inl ⟨j, tmpName k, Nat.le_refl _, by simp [Ctx.tn, Ctx.mg]⟩
  · cases g with
    | true => exact Or.inr (Or.inr (Or.inl (by simpa [Ctx.mg] using hg)))
    | false => exact Or.inl ⟨j, v, Nat.le_refl _, by simp [Ctx.mg]⟩
  · exact Or.inr (Or.inl ⟨i, rfl⟩)
  · exact Or.inr (Or.inr (Or.inr (Or.inl ⟨n, by omega, rfl⟩)))
  · exact Or.inr (Or.inr (Or.inr (Or.inr hsp)))

theorem touched_mono {j j' b b' : Nat} (hj : j ≤ j') (hb : b ≤ b') {x : String} (h : Touched j b x) : Touched j' b' x := by
  rcases h with ⟨i, a, hi, rfl⟩ | h | h | ⟨n, hn, rfl⟩ | hsp
  · exact Or.inl ⟨i, a, by omega, rfl⟩
  · exact Or.inr (Or.inl h)
  · exact Or.inr (Or.inr (Or.inl h))
  · exact Or.inr (Or.inr (Or.inr (Or.inl ⟨n, by omega, rfl⟩)))
  · exact Or.inr (Or.inr (Or.inr (Or.inr hsp)))

theorem linesOK_SL {j hi b : Nat} (hb : hi ≤ b) {ds : List String} {ls : List Line} (Q : String → Prop) (h : LinesOK ⟨true, j⟩ hi ds ls) :
    SL (Touched j b) Q ds ls := by
  intro l hl
  obtain ⟨h1, h2, h3⟩ := h l hl
  refine ⟨fun x hx => ownT_touched hb (h1 x hx), h2, ?_, ?_⟩
  · intro n e; subst e; simp [isDefLine] at h3
  · intro n i e; subst e; simp [isDefLine] at h3

theorem paramLines_SL (j b : Nat) (ds : List String) : ∀ (ps : List String) (i : Nat),
    SL (Touched j b) (Pref j) ds (C02.paramLines (fnPrefix j ++ ·) ps i)
  | [], _ => fun l hl => by simp [C02.paramLines] at hl
  | p :: rest, i => by
    intro l hl
    simp only [C02.paramLines, List.mem_cons] at hl
    rcases hl with rfl | hl
    · refine ⟨fun x hx => ?_, fun nm ar e => (by cases e), fun n e => (by cases e), fun n i' e => ?_⟩
      · simp only [lineTargets, List.mem_singleton] at hx
        exact Or.inl ⟨j, p, Nat.le_refl _, hx⟩
      · simp only [Line.localAssign.injEq] at e
        exact ⟨p, e.1.symm⟩
    · exact paramLines_SL j b ds rest (i + 1) l hl

/-- static facts about the bodies of a table: what their lines assign, which functions they call (`tblStatic_of`: the frame
    theorem's `TblStatic` for the run-time table) -/
def TStat (D : List String) (T : List FEntry) : Prop :=
  ∀ e ∈ T, SL (Touched e.j e.b) (Pref e.j) D (flats e.body)

theorem TStat.mono {D D' : List String} {T : List FEntry} (h : TStat D T) (hd : ∀ x ∈ D, x ∈ D') : TStat D' T :=
  fun e he => (h e he).mono (fun _ hx => hx) hd

theorem tblStatic_of {T Tr : List FEntry} {j b : Nat} (hst : TStat (tnames T) T) (hsuf : T <:+ Tr) (hnd : (tnames Tr).Nodup)
    (hjb : ∀ e ∈ T, e.j ≤ j ∧ e.b ≤ b) : TblStatic (Touched j b) (tnames T) (shTable Tr) := by
  intro name hname
  simp only [tnames, List.mem_map] at hname
  obtain ⟨e, he, hn⟩ := hname
  refine ⟨e.body, Pref e.j, ?_, ?_, ?_⟩
  · rw [← hn]; exact (lookup_entry Tr e hnd (hsuf.subset he)).2
  · exact (hst e he).mono (fun x hx => touched_mono (hjb e he).1 (hjb e he).2 hx) (fun _ hx => hx)
  · rintro n ⟨a, rfl⟩
    exact Or.inl ⟨e.j, a, (hjb e he).1, rfl⟩

theorem body_sim {T : List FEntry} {j b B k : Nat} {fd : FunDef} {cmds : List Cmd}
    (hst : TStat (tnames T) T) (hjb : ∀ e ∈ T, e.j ≤ j ∧ e.b ≤ b)
    (hgood : (fd.params.all (fun p => goodName2 p.name)) = true)
    (hlines : LinesOK ⟨true, j⟩ b (tnames T) (flats cmds))
    (hsim : SimF ⟨true, j⟩ T B (fun f c => execSs f fd.body c) cmds k) :
    BodySim ⟨fd, (C02.paramLines (fnPrefix j ++ ·) (fd.params.map (·.name)) 0).map Cmd.simple ++ cmds, j, b⟩ T ∧
      SL (Touched j b) (Pref j) (tnames T) (flats ((C02.paramLines (fnPrefix j ++ ·) (fd.params.map (·.name)) 0).map Cmd.simple ++ cmds)) := by
  have hsl : SL (Touched j b) (Pref j) (tnames T) (flats ((C02.paramLines (fnPrefix j ++ ·) (fd.params.map (·.name)) 0).map Cmd.simple ++ cmds)) := by
    rw [flats_append, flats_simples]
    exact (paramLines_SL j b (tnames T) _ 0).append (linesOK_SL (Nat.le_refl b) (Pref j) hlines)
  refine ⟨?_, hsl⟩
  intro Tr c m vals fuel o c2 hsuf hnd hcf hmf hag hlen hb
  have hsufT : T <:+ Tr := (List.suffix_cons _ T).trans hsuf
  obtain ⟨m1, ex1, hbind, hfr1, ho1, hfu1, harr1⟩ := params_sem j fd.params vals 0
    { m with args := vals.map Val.render, saved := [] } [] (fun _ => none) (by simp) rfl hlen (by intro x v h; cases h)
  have hinv : Inv ⟨true, j⟩ T { c with lenv := bindParams (fun _ => none) fd.params vals, inFn := true } m1 := by
    refine ⟨⟨rfl, ?_, ?_, ?_, ⟨?_, ?_, hag.hp.fresh⟩⟩, ⟨Tr, hsufT, hnd, hcf, by rw [hfu1]; exact hmf⟩⟩
    rotate_left 3
    · rw [hfr1 _ (fun a => special_ne_prefixed (x := "_dvc") (by decide) j a)]; exact hag.hp.dvc
    · intro id; rw [harr1]; exact hag.hp.heap id
    · show c.out = m1.out
      rw [ho1]; exact hag.out
    · intro x v hx
      obtain ⟨hg, hv⟩ := hag.glob x v hx
      exact ⟨hg, by rw [hfr1 x (fun a => good2_ne_prefixed x j a hg)]; exact hv⟩
    · intro _ x v hx
      exact ⟨bindParams_good fd.params vals _ x v hgood (by intro y w h; cases h) hx, hbind x v hx⟩
  obtain ⟨m2, ex2, hout, hkept, hret⟩ := Ends.elim (hsim fuel _ o c2 hb m1 hinv)
  have ex := execCmds_append ex1 ex2
  refine ⟨m2, _, ex, outRel_outOf o, hout, ?_⟩
  intro hne
  obtain ⟨hinv2, hctl, _⟩ := hkept hne
  have hsame := funs_execSs fuel [] (Or.inl rfl) hb hne
  have hfrm := execCmds_frame ex hsl (by show TblStatic _ _ m.funs; rw [hmf]; exact tblStatic_of hst hsufT hnd hjb)
  refine ⟨hinv2.agree.toG, hsame.1, ?_, hret, ?_, ?_⟩
  · rw [hctl.2.2, hfu1]
  · intro x hx; exact hfrm.rho x hx
  · exact hfrm.saved (fun k e => by cases o <;> cases e; exact hne _ rfl) (by intro p hp; cases hp)

end Tsh.Sem2
