/-
  How simulations of expression parts compose (operands one after the other, operands and then the lines of an operation), the
  same for the converter runs that emit those lines (`Emits`), and how a source run falls into its operands and the rest (`Via`).
-/
import TshVerif.Lemmas.Sem2Table
import TshVerif.Lemmas.Sem2SrcEqs
namespace Tsh.Sem2
open Tsh Tsh.Tr Tsh.Bash Tsh.Sem Tsh.Sem2.Src
open Tsh.Sem.Src (Val Env)

abbrev SEval := Nat → SCfg → Option (R (List Opd))

theorem map_reverse_append (a b : List Line) :
    (a ++ b).reverse.map Cmd.simple = b.reverse.map Cmd.simple ++ a.reverse.map Cmd.simple := by simp

section
variable {ctx : Ctx} {T : List FEntry} {B : Nat} {src : SEval} {f : Nat} {c c1 : SCfg}

/-- the run with result `r` falls into its operands `srcX`, whose end of the program it passes on as `E`, and the rest `P` -/
def Via {γ : Type} (srcX : SEval) (c : SCfg) (E : Nat → SCfg → γ) (r : γ) (P : List Opd → SCfg → Prop) : Prop :=
  (∃ f k c1, srcX f c = some (.exit k c1) ∧ r = E k c1) ∨ ∃ f os c1, srcX f c = some (.ok os c1) ∧ P os c1

theorem Via.imp {γ : Type} {srcX : SEval} {E : Nat → SCfg → γ} {r : γ} {P Q : List Opd → SCfg → Prop} (h : Via srcX c E r P)
    (hPQ : ∀ os c1, P os c1 → Q os c1) : Via srcX c E r Q :=
  h.imp_right fun ⟨f, os, c1, hx, hp⟩ => ⟨f, os, c1, hx, hPQ os c1 hp⟩

theorem esim_bind {srcX : SEval} {newX post : List Line} {lo nX k : Nat} {tsX ts : List String}
    (hx : ESim ctx T B srcX newX lo nX tsX) (hpost : LinesOK ctx 0 (tnames T) post)
    (hsrc : ∀ fuel c res, src fuel c = some res → Via srcX c R.exit res fun os c1 =>
      ∀ m1, Inv ctx T c1 m1 → HoldsAllF ctx tsX os (lo + nX) m1.ρ → Runs ctx T B post (lo + nX) k ts m1 res) :
    ESim ctx T B src (post ++ newX) lo (nX + k) ts := by
  refine ⟨hpost.append hx.lines, ?_⟩
  intro fuel c res hs m hi
  rcases hsrc fuel c res hs with ⟨f, j, c1, hx1, rfl⟩ | ⟨f, os, c1, hx1, hstep⟩
  · obtain ⟨m1, ex, ho⟩ := hx.run f c _ hx1 m hi
    refine ⟨m1, ?_, ho⟩
    rw [map_reverse_append]
    exact execCmds_stop_append _ ex nofun
  · obtain ⟨m1, ex1, hi1, hc1, hk1, hh1⟩ := hx.run f c _ hx1 m hi
    have h2 := hstep m1 hi1 (hh1 rfl)
    cases res with
    | ok os2 c2 =>
      obtain ⟨m2, ex2, hi2, hc2, hk2, hh2⟩ := h2
      refine ⟨m2, ?_, hi2, hc1.trans hc2, hk1.trans hk2 (Nat.le_add_right _ _), fun _ => ?_⟩
      · rw [map_reverse_append]
        exact execCmds_append ex1 ex2
      · rw [← Nat.add_assoc]
        exact hh2 rfl
    | exit j c2 =>
      obtain ⟨m2, ex2, ho⟩ := h2
      refine ⟨m2, ?_, ho⟩
      rw [map_reverse_append]
      exact execCmds_append ex1 ex2

end

/-- what the lines `post` (latest first) of an operation with result `o` (its text: `t`, in `k` new helpers) have to do -/
def PostRuns (ctx : Ctx) (T : List FEntry) (B : Nat) (post : List Line) (n k : Nat) (ts : List String) (os : List Opd) (c1 : SCfg)
    (t : String) (o : Opd) (c2 : SCfg) : Prop :=
  ∀ m1, Inv ctx T c1 m1 → HoldsAllF ctx ts os n m1.ρ →
    ∃ m2, ExecCmds (post.reverse.map Cmd.simple) m1 .normal m2 ∧ Inv ctx T c2 m2 ∧ Ctl m1 m2 ∧ KeepE ctx B n m1 m2 ∧
      HoldsF ctx t o (n + k) m2.ρ

/-- a sequence of operands, all with the same fuel (the shape of the compound cases of `evalE`) -/
def evalSeq : Nat → List Expr → SCfg → Option (R (List Opd))
  | _, [], c => some (.ok [] c)
  | f, e :: rest, c =>
      match evalE f e c with
      | some (.ok [o] c1) =>
          match evalSeq f rest c1 with
          | some (.ok os c2) => some (.ok (o :: os) c2)
          | some (.exit k c2) => some (.exit k c2)
          | none => none
      | some (.exit k c1) => some (.exit k c1)
      | _ => none

section
variable {f : Nat} {e : Expr} {rest : List Expr} {c c1 c2 : SCfg} {k : Nat} {o : Opd} {os : List Opd}

theorem evalSeq_exit (he : evalE f e c = some (.exit k c1)) : evalSeq f (e :: rest) c = some (.exit k c1) := by
  simp only [evalSeq, he]

theorem evalSeq_ok_exit (he : evalE f e c = some (.ok [o] c1)) (hr : evalSeq f rest c1 = some (.exit k c2)) :
    evalSeq f (e :: rest) c = some (.exit k c2) := by
  simp only [evalSeq, he, hr]

theorem evalSeq_ok_ok (he : evalE f e c = some (.ok [o] c1)) (hr : evalSeq f rest c1 = some (.ok os c2)) :
    evalSeq f (e :: rest) c = some (.ok (o :: os) c2) := by
  simp only [evalSeq, he, hr]

end

section
variable {γ : Type} {E : Nat → SCfg → γ} {res : γ} {f : Nat} {c : SCfg}

theorem bindL_via {src : SEval} {K : List Opd → SCfg → Option γ} (h : bindL (src f c) E K = some res) :
    Via src c E res fun os c1 => K os c1 = some res :=
  (bindL_inv h).imp (fun ⟨k, c1, hx, hr⟩ => ⟨f, k, c1, hx, hr⟩) fun ⟨os, c1, hx, h⟩ => ⟨f, os, c1, hx, h⟩

theorem bind1_via {e : Expr} {K : Opd → SCfg → Option γ} (h : bind1 (evalE f e c) E K = some res) :
    Via (fun f c => evalE f e c) c E res fun os c1 => ∃ a, os = [a] ∧ K a c1 = some res :=
  (bind1_inv h).imp (fun ⟨k, c1, he, hr⟩ => ⟨f, k, c1, he, hr⟩) fun ⟨a, c1, he, h⟩ => ⟨f, [a], c1, he, a, rfl, h⟩

theorem bind2_via {l r : Expr} {K : Opd → Opd → SCfg → Option γ} (h : bind2 (evalE f) l r c E K = some res) :
    Via (fun f c => evalSeq f [l, r] c) c E res fun os c2 => ∃ a b, os = [a, b] ∧ K a b c2 = some res := by
  rcases bind1_inv h with ⟨k, c1, hl, rfl⟩ | ⟨a, c1, hl, h⟩
  · exact Or.inl ⟨f, k, c1, evalSeq_exit hl, rfl⟩
  rcases bind1_inv h with ⟨k, c2, hr, rfl⟩ | ⟨b, c2, hr, h⟩
  · exact Or.inl ⟨f, k, c2, evalSeq_ok_exit hl (evalSeq_exit hr), rfl⟩
  · exact Or.inr ⟨f, [a, b], c2, evalSeq_ok_ok hl (evalSeq_ok_ok hr rfl), a, b, rfl, h⟩

end

theorem src_pure2 {node l r : Expr} {g : Val → Val → Option Val} {fuel : Nat} {c : SCfg} {res : R (List Opd)}
    (hcl : ∀ {f c}, evalE (f + 1) node c = bind2 (evalE f) l r c .exit (pure2 g)) (h : evalE fuel node c = some res) :
    Via (fun f c => evalSeq f [l, r] c) c R.exit res fun os c2 =>
      ∃ a b va vb w, os = [a, b] ∧ resolve c2 a = some va ∧ resolve c2 b = some vb ∧ g va vb = some w ∧ res = .ok [.lit w] c2 := by
  obtain ⟨f, rfl⟩ := evalE_pos h
  refine (bind2_via (hcl ▸ h)).imp ?_
  rintro os c2 ⟨a, b, e, h⟩
  obtain ⟨va, vb, w, hva, hvb, hw, hr⟩ := pure2_some h
  exact ⟨a, b, va, vb, w, e, hva, hvb, hw, hr⟩

/-- the result `res` comes from one operand `srcE` and then the further operands `srcR` -/
def ViaCons (srcE srcR : SEval) (c : SCfg) (res : R (List Opd)) : Prop :=
  Via srcE c R.exit res fun os c1 => ∃ o, os = [o] ∧ Via srcR c1 R.exit res fun os' c2 => res = .ok (o :: os') c2

theorem viaCons_of_bind {srcR : SEval} {f : Nat} {e : Expr} {c : SCfg} {res : R (List Opd)}
    (h : bind1 (evalE f e c) R.exit (fun o c1 => bindL (srcR f c1) R.exit fun os c2 => some (.ok (o :: os) c2)) = some res) :
    ViaCons (fun f c => evalE f e c) srcR c res :=
  (bind1_via h).imp fun _ _ ⟨o, e, h⟩ => ⟨o, e, (bindL_via h).imp fun _ _ h => (Option.some.inj h).symm⟩

section
variable {ctx : Ctx} {T : List FEntry} {B : Nat} {newE newR : List Line} {lo nE nR : Nat} {a ts : List String}

theorem esim_cons {srcE srcR src : SEval}
    (he : ESim ctx T B srcE newE lo nE a) (hr : ESim ctx T B srcR newR (lo + nE) nR ts)
    (hsrc : ∀ fuel c res, src fuel c = some res → ViaCons srcE srcR c res) :
    ESim ctx T B src (newR ++ newE) lo (nE + nR) (firstValue a :: ts) := by
  refine esim_bind he hr.lines fun fuel c res hs => Via.imp (hsrc fuel c res hs) ?_
  rintro _ c1 ⟨o, rfl, hrest⟩ m1 hi1 hh
  rcases hrest with ⟨f', k, c2, h2, rfl⟩ | ⟨f', os, c2, h2, rfl⟩
  · exact hr.run f' c1 _ h2 m1 hi1
  · obtain ⟨m2, ex2, hi2, hc2, hk2, hh2⟩ := hr.run f' c1 _ h2 m1 hi1
    exact ⟨m2, ex2, hi2, hc2, hk2, fun _ => ⟨hh.first.mono (Nat.le_add_right _ _) (fun j hj => hk2.helpers j hj), hh2 rfl⟩⟩

end

/-- the converter went from `s` to `s'`; the lines it added do what `src` does and leave the operand texts `ts` -/
def Emits (ctx : Ctx) (T : List FEntry) (B : Nat) (src : SEval) (s : St) (ts : List String) (s' : St) : Prop :=
  ∃ new n rq, s' = reqSt (adv s new n) rq ∧ ESim ctx T B src new s.varCounter n ts

section
variable {ctx : Ctx} {T : List FEntry} {B : Nat} {src : SEval} {s s1 s2 : St} {ts : List String}

theorem Emits.ctxOf (h : Emits ctx T B src s ts s1) : ctxOf s1 = ctxOf s := by
  obtain ⟨_, _, _, rfl, _⟩ := h
  rfl

theorem Emits.leaf (h : ∀ fuel c res, src fuel c = some res → ∃ os, res = .ok os c ∧ ∀ ρ0, HoldsAllF ctx ts os s.varCounter ρ0) :
    Emits ctx T B src s ts s := by
  refine ⟨[], 0, Req.none, (reqSt_none s).symm, LinesOK.nil _ _ _, fun fuel c res hs m hi => ?_⟩
  obtain ⟨os, rfl, hh⟩ := h fuel c res hs
  exact ⟨m, ExecCmds.nil, hi, Ctl.refl m, KeepE.refl _ _ _ m, fun _ => hh m.ρ⟩

theorem Emits.nil : Emits ctx T B (fun f c => evalSeq f [] c) s [] s :=
  .leaf fun fuel c res hs => by
    cases hs
    exact ⟨[], rfl, fun _ => trivial⟩

theorem Emits.cons {srcE srcR : SEval} {a : List String}
    (he : Emits ctx T B srcE s a s1) (hr : Emits ctx T B srcR s1 ts s2)
    (hsrc : ∀ fuel c res, src fuel c = some res → ViaCons srcE srcR c res) : Emits ctx T B src s (firstValue a :: ts) s2 := by
  obtain ⟨newE, nE, rE, rfl, simE⟩ := he
  obtain ⟨newR, nR, rR, rfl, simR⟩ := hr
  exact ⟨newR ++ newE, nE + nR, rE.or rR, adv3_comp s _ _ nE 0 0 nR 0 0 rE rR, esim_cons simE simR hsrc⟩

theorem Emits.seq {e : Expr} {rest : List Expr} {a : List String}
    (he : Emits ctx T B (fun f c => evalE f e c) s a s1) (hr : Emits ctx T B (fun f c => evalSeq f rest c) s1 ts s2) :
    Emits ctx T B (fun f c => evalSeq f (e :: rest) c) s (firstValue a :: ts) s2 :=
  he.cons hr fun _ _ _ h => viaCons_of_bind h

theorem Emits.bind {srcX : SEval} {post : List Line} {k : Nat} {tsX : List String}
    (hx : Emits ctx T B srcX s tsX s1) (rq : Req) (hs : s2 = reqSt (adv s1 post k) rq) (hpost : LinesOK ctx 0 (tnames T) post)
    (hsrc : ∀ fuel c res, src fuel c = some res → Via srcX c R.exit res fun os c1 =>
      ∀ m1, Inv ctx T c1 m1 → HoldsAllF ctx tsX os s1.varCounter m1.ρ → Runs ctx T B post s1.varCounter k ts m1 res) :
    Emits ctx T B src s ts s2 := by
  obtain ⟨new, n, rq0, rfl, sim⟩ := hx
  exact ⟨post ++ new, n + k, rq0.or rq, hs ▸ adv3_comp s _ _ n 0 0 k 0 0 rq0 rq, esim_bind sim hpost hsrc⟩

theorem Emits.op {srcX : SEval} {post : List Line} {t : String}
    (hx : Emits ctx T B srcX s ts s1) (rq : Req) (hs : s2 = reqSt (adv s1 post 1) rq) (hpost : LinesOK ctx 0 (tnames T) post)
    (hsrc : ∀ fuel c res, src fuel c = some res → Via srcX c R.exit res fun os c1 =>
      ∃ o c2, res = .ok [o] c2 ∧ PostRuns ctx T B post s1.varCounter 1 ts os c1 t o c2) :
    Emits ctx T B src s [t] s2 := by
  refine hx.bind rq hs hpost fun fuel c res hs => (hsrc fuel c res hs).imp ?_
  rintro os c1 ⟨o, c2, rfl, hp⟩ m1 hi1 hh
  obtain ⟨m2, ex, hi2, hc2, hk2, hh2⟩ := hp m1 hi1 hh
  exact ⟨m2, ex, hi2, hc2, hk2, fun _ => ⟨hh2, trivial⟩⟩

theorem Emits.step {srcX : SEval} {line : Line} (hx : Emits ctx T B srcX s ts s1)
    (htgt : lineTargets line = [ctx.hn s1.varCounter]) (hcall : isCall line = false) (hdef : isDefLine line = false)
    (hsrc : ∀ fuel c res, src fuel c = some res → Via srcX c R.exit res fun os c1 => ∃ w : Val, res = .ok [.lit w] c1 ∧
      ∀ m1, AgreeF ctx c1 m1 → HoldsAllF ctx ts os s1.varCounter m1.ρ →
        stepSimple line m1 = some (.normal, { m1 with ρ := m1.ρ.set (ctx.hn s1.varCounter) w.render })) :
    Emits ctx T B src s ["${" ++ ctx.hn s1.varCounter ++ "}"] (adv s1 [line] 1) := by
  refine hx.op Req.none (reqSt_none _).symm (.one (sline_helper _ _ _ _ _ htgt hcall hdef)) fun fuel c res hs => (hsrc fuel c res hs).imp ?_
  rintro os c1 ⟨w, rfl, hstep⟩
  exact ⟨_, c1, rfl, fun m1 hi1 hh => ⟨_, execCmds_step hcall (hstep m1 hi1.agree hh), hi1.set_hn _ _, Ctl.refl m1,
    (KeepE.refl _ _ _ m1).set_helper (Nat.le_refl _) _, holdsF_helper ctx _ w _ (Sem.set_same _ _ _)⟩⟩

theorem Emits.scalar {srcX : SEval} {Rv : Val → Val → Val → Prop} {l r t : String} (hx : Emits ctx T B srcX s ts s1)
    (hc : Sem2.ctxOf s1 = ctx) (hop : OpLineF Rv l r t s1 s2)
    (hsrc : ∀ fuel c res, src fuel c = some res → Via srcX c R.exit res fun os c1 => ∃ w : Val, res = .ok [.lit w] c1 ∧
      ∀ m1, AgreeF ctx c1 m1 → HoldsAllF ctx ts os s1.varCounter m1.ρ →
        ∃ a b, Rv a b w ∧ Complete m1.ρ l.toList a.render.toList ∧ Complete m1.ρ r.toList b.render.toList) :
    Emits ctx T B src s [t] s2 := by
  obtain ⟨line, rfl, rfl, ha, hp⟩ := hop
  subst hc
  refine hx.step ha.shape.1 ha.shape.2.1 ha.shape.2.2 fun fuel c res hs => (hsrc fuel c res hs).imp ?_
  rintro os c1 ⟨w, rfl, hw⟩
  refine ⟨w, rfl, fun m1 hag hh => ?_⟩
  obtain ⟨a, b, hr, hl, hr'⟩ := hw m1 hag hh
  exact (hp a b w hr m1.ρ hl hr').step2

end

end Tsh.Sem2
