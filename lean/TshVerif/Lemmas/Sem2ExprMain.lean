/-
  The expression theorem with calls: the claim for one expression (`SemE`), one lemma per kind of node (the claim holds
  of the node if it holds of its parts), and the induction over the expression that puts them together.
-/
import TshVerif.Lemmas.Sem2Slice
import TshVerif.Lemmas.BashStmt
namespace Tsh.Sem2
open Tsh Tsh.Tr Tsh.Bash Tsh.Sem Tsh.Sem2.Src
open Tsh.Sem.Src (Val Env)

/-- the claim of the expression theorem for one walk `act` of the converter, over source `src`, admitted by the fragment test `frag` -/
def SemRun (ctx : Ctx) (T : List FEntry) (B : Nat) (frag : Bool) (act : EM St (List String)) (src : SEval) : Prop :=
  ∀ (s : St) (r : List String) (s' : St), frag = true → ctxOf s = ctx → act s = .ok (r, s') → Emits ctx T B src s r s'

abbrev SemE (ctx : Ctx) (T : List FEntry) (B : Nat) (e : Expr) : Prop :=
  SemRun ctx T B (fragE (tnames T) e) (Tr.evalExpr conv e true) fun f c => evalE f e c

abbrev SemEs (ctx : Ctx) (T : List FEntry) (B : Nat) (es : List Expr) : Prop :=
  SemRun ctx T B (fragEs (tnames T) es) (Tr.evalArgs conv es) fun f c => Src.evalArgs f es c

section
variable {ctx : Ctx} {T : List FEntry} {B : Nat} {s : St}

theorem SemRun.bind {frag : Bool} {act : EM St (List String)} {src : SEval} (ih : SemRun ctx T B frag act src) (hf : frag = true)
    (hc : ctxOf s = ctx) {α : Type} {k : List String → EM St α} {x : α} {s' : St} (h : (act >>= k) s = .ok (x, s')) :
    ∃ a s1, Emits ctx T B src s a s1 ∧ ctxOf s1 = ctx ∧ k a s1 = .ok (x, s') := by
  obtain ⟨a, s1, ha, h⟩ := EM.bind_ok h
  have he := ih s a s1 hf hc ha
  exact ⟨a, s1, he, he.ctxOf.trans hc, h⟩

theorem sem_args_nil : SemEs ctx T B [] := by
  intro s ts s' _ _ h
  unfold Tr.evalArgs at h
  obtain ⟨rfl, rfl⟩ := EM.pure_ok h
  refine Emits.leaf fun fuel c res hs => ?_
  cases fuel with
  | zero => cases hs
  | succ f => exact ⟨[], (Option.some.inj hs).symm, fun _ => trivial⟩

theorem src_args_cons {fuel : Nat} {e : Expr} {rest : List Expr} {c : SCfg} {res : R (List Opd)}
    (h : Src.evalArgs fuel (e :: rest) c = some res) : ViaCons (fun f c => evalE f e c) (fun f c => Src.evalArgs f rest c) c res := by
  cases fuel with
  | zero => cases h
  | succ f => exact viaCons_of_bind (evalArgs_cons ▸ h)

theorem sem_args_cons {e : Expr} {rest : List Expr} (ihe : SemE ctx T B e) (ihr : SemEs ctx T B rest) : SemEs ctx T B (e :: rest) := by
  intro s ts s' hf hc h
  unfold Tr.evalArgs at h
  have hf : (fragE (tnames T) e && fragEs (tnames T) rest) = true := hf
  rw [Bool.and_eq_true] at hf
  obtain ⟨r, s1, he, hc1, h⟩ := ihe.bind hf.1 hc h
  obtain ⟨rs, s2, hr, _, h⟩ := ihr.bind hf.2 hc1 h
  obtain ⟨rfl, rfl⟩ := EM.pure_ok h
  exact he.cons hr fun _ _ _ => src_args_cons

theorem sem_boolLit (x : Bool) : SemE ctx T B (.boolLit x) := by
  intro s r s' _ _ h
  unfold Tr.evalExpr at h
  obtain ⟨rfl, rfl⟩ := EM.pure_ok h
  refine Emits.leaf fun fuel c res hs => ?_
  obtain ⟨f, rfl⟩ := evalE_pos hs
  exact ⟨_, (Option.some.inj hs).symm, fun ρ0 => ⟨holdsF_text ctx _ (.bool x) _ ρ0 (fun ρ => complete_bool ρ x), trivial⟩⟩

theorem sem_intLit (n : Int) : SemE ctx T B (.intLit n) := by
  intro s r s' _ _ h
  unfold Tr.evalExpr at h
  obtain ⟨rfl, rfl⟩ := EM.pure_ok h
  refine Emits.leaf fun fuel c res hs => ?_
  obtain ⟨f, rfl⟩ := evalE_pos hs
  rw [evalE_intLit] at hs
  split at hs
  · cases hs
    exact ⟨_, rfl, fun ρ0 => ⟨holdsF_text ctx _ (.int n) _ ρ0 (fun ρ => complete_int ρ n), trivial⟩⟩
  · cases hs

theorem sem_strLit (lit : String) : SemE ctx T B (.strLit lit) := by
  intro s r s' _ _ h
  unfold Tr.evalExpr at h
  obtain ⟨t, s1, h1, h⟩ := EM.bind_ok h
  obtain ⟨rfl, rfl⟩ := EM.pure_ok h
  obtain ⟨rfl, rfl⟩ := EM.pure_ok (a := stringToString lit) h1
  refine Emits.leaf fun fuel c res hs => ?_
  obtain ⟨f, rfl⟩ := evalE_pos hs
  rw [evalE_strLit] at hs
  split at hs
  · rename_i hp
    cases hs
    refine ⟨_, rfl, fun ρ0 => ⟨holdsF_text ctx _ (.str lit) _ ρ0 (fun ρ => ?_), trivial⟩⟩
    have : (stringToString lit).toList = lit.toList.flatMap escChar := by simp [stringToString]
    show Complete ρ (stringToString lit).toList lit.toList
    rw [this]
    apply complete_literal
    have hp' : ∀ c ∈ lit.toList, (¬c = '$' ∧ ¬c = '`') ∧ c.toNat < 128 := by simpa [Sem.Src.plainLit, List.all_eq_true] using hp
    exact fun c hc => by simpa using (hp' c hc).1
  · cases hs

theorem sem_varEval (x : Var) : SemE ctx T B (.varEval x) := by
  intro s r s' _ hc h
  unfold Tr.evalExpr at h
  obtain ⟨t, s1, h1, h⟩ := EM.bind_ok h
  obtain ⟨rfl, rfl⟩ := EM.pure_ok h
  have h1 : varEvaluation x.name x.global s = .ok (t, _) := h1
  rw [varEvaluation_specF, hc] at h1
  cases h1
  refine Emits.leaf fun fuel c res hs => ?_
  obtain ⟨f, rfl⟩ := evalE_pos hs
  exact ⟨_, (Option.some.inj hs).symm, fun ρ0 => ⟨holdsF_var ctx x _ ρ0, trivial⟩⟩

theorem sem_group {x : Expr} (ih : SemE ctx T B x) : SemE ctx T B (.group x) := by
  intro s r s' hf hc h
  unfold Tr.evalExpr at h
  obtain ⟨new, n, rq, e, sim⟩ := ih s r s' hf hc h
  refine ⟨new, n, rq, e, sim.lines, fun fuel c res hs m hi => ?_⟩
  obtain ⟨f, rfl⟩ := evalE_pos hs
  exact sim.run f c res hs m hi

theorem sem_itoa {x : Expr} (ih : SemE ctx T B x) : SemE ctx T B (.itoa x) := by
  intro s r s' hf hc h
  unfold Tr.evalExpr at h
  obtain ⟨a, s1, hx, _, h⟩ := ih.bind hf hc h
  obtain ⟨rfl, rfl⟩ := EM.pure_ok h
  obtain ⟨new, n, rq, e, sim⟩ := hx
  refine ⟨new, n, rq, e, sim.lines, fun fuel c res hs m hi => ?_⟩
  obtain ⟨f, rfl⟩ := evalE_pos hs
  rcases bind1_inv (evalE_itoa ▸ hs) with ⟨k, c1, hx, rfl⟩ | ⟨o, c1, hx, hs⟩
  · exact sim.run f c _ hx m hi
  · cases hs
    obtain ⟨m1, ex, hi1, hc1, hk1, hh⟩ := sim.run f c _ hx m hi
    exact ⟨m1, ex, hi1, hc1, hk1, fun _ => ⟨holdsF_itoa (hh rfl).first, trivial⟩⟩

theorem SemE.bind2 {l r : Expr} (ihl : SemE ctx T B l) (ihr : SemE ctx T B r) (hf : (fragE (tnames T) l && fragE (tnames T) r) = true)
    (hc : ctxOf s = ctx) {k : List String → List String → EM St String} {res : List String} {s' : St}
    (h : (Tr.evalExpr conv l true >>= fun a => Tr.evalExpr conv r true >>= fun b => k a b >>= fun t => pure [t]) s = .ok (res, s')) :
    ∃ a b s2 t, res = [t] ∧ Emits ctx T B (fun f c => evalSeq f [l, r] c) s [firstValue a, firstValue b] s2 ∧ ctxOf s2 = ctx ∧
      k a b s2 = .ok (t, s') := by
  rw [Bool.and_eq_true] at hf
  obtain ⟨a, s1, hl, hc1, h⟩ := ihl.bind hf.1 hc h
  obtain ⟨b, s2, hr, hc2, h⟩ := ihr.bind hf.2 hc1 h
  obtain ⟨t, s3, hop, h⟩ := EM.bind_ok h
  obtain ⟨rfl, rfl⟩ := EM.pure_ok h
  exact ⟨a, b, s2, t, rfl, hl.seq (hr.seq .nil), hc2, hop⟩

theorem sem_unary {x : Expr} {op : String} {vt : ValueType} (ih : SemE ctx T B x) : SemE ctx T B (.unary op x vt) := by
  intro s r s' hf hc h
  unfold Tr.evalExpr at h
  obtain ⟨a, s1, hx, hc1, h⟩ := ih.bind hf hc h
  obtain ⟨t, s2, hop, h⟩ := EM.bind_ok h
  obtain ⟨rfl, rfl⟩ := EM.pure_ok h
  dsimp only [conv] at hop
  obtain ⟨rfl, hline⟩ := unaryOp_semF (r := firstValue a) hop
  refine hx.scalar hc1 hline fun fuel c res hs => ?_
  obtain ⟨f, rfl⟩ := evalE_pos hs
  rw [evalE_unary, if_pos (beq_self_eq_true _)] at hs
  refine (bind1_via hs).imp ?_
  rintro _ c1 ⟨o, rfl, hk⟩
  unfold notT at hk
  split at hk
  · rename_i b hb
    cases hk
    exact ⟨_, rfl, fun m hag hh => ⟨.bool b, .bool b, ⟨b, rfl, rfl⟩, hh.first.complete hag hb, hh.first.complete hag hb⟩⟩
  · cases hk

theorem Emits.scalar2 {node l r : Expr} {Rv : Val → Val → Val → Prop} {ta tb t : String} {s2 s' : St}
    (hS : Emits ctx T B (fun f c => evalSeq f [l, r] c) s [ta, tb] s2) (hc2 : Sem2.ctxOf s2 = ctx) (hop : OpLineF Rv ta tb t s2 s')
    (hsrc : ∀ {fuel c res}, evalE fuel node c = some res → Via (fun f c => evalSeq f [l, r] c) c R.exit res fun os c2 =>
      ∃ a b va vb w, os = [a, b] ∧ resolve c2 a = some va ∧ resolve c2 b = some vb ∧ Rv va vb w ∧ res = .ok [.lit w] c2) :
    Emits ctx T B (fun f c => evalE f node c) s [t] s' := by
  refine hS.scalar hc2 hop fun fuel c res hs => (hsrc hs).imp ?_
  rintro os c2 ⟨a', b', va, vb, w, rfl, hva, hvb, hw, rfl⟩
  exact ⟨_, rfl, fun m hag hh => ⟨va, vb, hw, hh.1.complete hag hva, hh.2.1.complete hag hvb⟩⟩

theorem sem_binary {op : String} {l r : Expr} (ihl : SemE ctx T B l) (ihr : SemE ctx T B r) : SemE ctx T B (.binary op l r) := by
  intro s res s' hf hc h
  unfold Tr.evalExpr at h
  obtain ⟨a, b, s2, t, rfl, hS, hc2, hop⟩ := ihl.bind2 ihr hf hc h
  dsimp only [conv] at hop
  exact hS.scalar2 hc2 (binaryOp_semF hop) (src_pure2 evalE_binary)

theorem sem_compare {op : String} {l r : Expr} (ihl : SemE ctx T B l) (ihr : SemE ctx T B r) : SemE ctx T B (.compare op l r) := by
  intro s res s' hf hc h
  unfold Tr.evalExpr at h
  obtain ⟨a, b, s2, t, rfl, hS, hc2, hop⟩ := ihl.bind2 ihr hf hc h
  dsimp only [conv] at hop
  exact hS.scalar2 hc2 (comparisonOp_semF hop) (src_pure2 evalE_compare)

theorem sem_logical {op : String} {l r : Expr} (ihl : SemE ctx T B l) (ihr : SemE ctx T B r) : SemE ctx T B (.logical op l r) := by
  intro s res s' hf hc h
  unfold Tr.evalExpr at h
  obtain ⟨a, b, s2, t, rfl, hS, hc2, hop⟩ := ihl.bind2 ihr hf hc h
  dsimp only [conv] at hop
  exact hS.scalar2 hc2 (logicalOp_semF hop) (src_pure2 evalE_logical)

theorem sem_sliceEval {value index : Expr} {dt : DataType} (ihl : SemE ctx T B value) (ihr : SemE ctx T B index) :
    SemE ctx T B (.sliceEval value index dt) := by
  intro s res s' hf hc h
  unfold Tr.evalExpr at h
  obtain ⟨a, b, s2, t, rfl, hS, hc2, hop⟩ := ihl.bind2 ihr hf hc h
  dsimp only [conv] at hop
  rw [sliceEvaluation_specF, hc2] at hop
  cases hop
  refine hS.step rfl rfl rfl fun fuel c res hs => ?_
  obtain ⟨f, rfl⟩ := evalE_pos hs
  refine (bind2_via (evalE_sliceEval ▸ hs)).imp ?_
  rintro _ c2 ⟨a', b', rfl, hk⟩
  obtain ⟨w, rfl, hst⟩ := idx_step hk _
  exact ⟨w, rfl, fun m hag hh => hst m hag hh.1 hh.2.1⟩

theorem sem_len {x : Expr} (ih : SemE ctx T B x) : SemE ctx T B (.len x) := by
  intro s res s' hf hc h
  unfold Tr.evalExpr at h
  obtain ⟨a, s1, hx, hc1, h⟩ := ih.bind hf hc h
  cases hstr : (Expr.valueType x).isString with
  | true =>
    simp only [hstr, if_true] at h
    obtain ⟨t, s2, hop, h⟩ := EM.bind_ok h
    obtain ⟨rfl, rfl⟩ := EM.pure_ok h
    dsimp only [conv] at hop
    rw [stringLen_specF, hc1] at hop
    cases hop
    refine hx.op Req.none (reqSt_none _).symm
      (.cons (sline_helper _ _ _ _ _ rfl rfl) (.one (sline_helper _ _ _ _ _ rfl rfl))) fun fuel c res hs => ?_
    obtain ⟨f, rfl⟩ := evalE_pos hs
    rw [evalE_len, hstr] at hs
    exact (bind1_via hs).imp fun _ _ ⟨_, e, hk⟩ => e ▸ len_str_post hk
  | false =>
    simp only [hstr, Bool.false_eq_true, if_false] at h
    obtain ⟨t, s2, hop, h⟩ := EM.bind_ok h
    obtain ⟨rfl, rfl⟩ := EM.pure_ok h
    dsimp only [conv] at hop
    rw [sliceLen_specF, hc1] at hop
    cases hop
    refine hx.step rfl rfl rfl fun fuel c res hs => ?_
    obtain ⟨f, rfl⟩ := evalE_pos hs
    rw [evalE_len, hstr] at hs
    refine (bind1_via hs).imp ?_
    rintro _ c1 ⟨a', rfl, hk⟩
    unfold lenT at hk
    split at hk
    case h_2 id hres =>
      cases hk
      exact ⟨_, rfl, fun m hag hh => len_slice_step hag hh.first hres _⟩
    all_goals cases hk

theorem sem_substr1 {value start : Expr} (ihA : SemE ctx T B start) (ihV : SemE ctx T B value) : SemE ctx T B (.substr value start none) := by
  intro s res s' hf hc h
  unfold Tr.evalExpr at h
  obtain ⟨a, v, s2, t, rfl, hS, hc2, hop⟩ := ihA.bind2 ihV hf hc h
  dsimp only [conv] at hop
  rw [stringSubscript_specF, hc2] at hop
  cases hop
  refine hS.op _ rfl (.cons (sline_helper _ _ _ _ _ rfl rfl) (.one (sline_special3 _ _ _ _ _ _))) fun fuel c res hs => ?_
  obtain ⟨f, rfl⟩ := evalE_pos hs
  refine (bind2_via (evalE_substr_none ▸ hs)).imp ?_
  rintro _ c2 ⟨a', v', rfl, hk⟩
  unfold substr1T at hk
  split at hk
  case h_2 => cases hk
  rename_i i str ra rv
  split at hk
  case h_2 => cases hk
  rename_i n hn
  split at hk
  case isFalse => cases hk
  cases hk
  exact ⟨_, c2, rfl, fun m hi hh => substr_post hi hh.2.1 hh.1 hh.1 rv ra ra hn (by simp [natOf])⟩

/-- the three operands of `s[a:b]`: `a`, `b`, then `s` -/
theorem src_substr2 {fuel : Nat} {c : SCfg} {res : R (List Opd)} {value start stop : Expr}
    (h : evalE fuel (.substr value start (some stop)) c = some res) :
    Via (fun f c => evalSeq f [start, stop, value] c) c R.exit res fun os c3 => ∃ a b v, os = [a, b, v] ∧ substr2T a b v c3 = some res := by
  obtain ⟨f, rfl⟩ := evalE_pos h
  rw [evalE_substr_some] at h
  rcases bind1_inv h with ⟨k, c1, h1, rfl⟩ | ⟨a, c1, h1, h⟩
  · exact Or.inl ⟨f, k, c1, evalSeq_exit h1, rfl⟩
  rcases bind1_inv h with ⟨k, c2, h2, rfl⟩ | ⟨b, c2, h2, h⟩
  · exact Or.inl ⟨f, k, c2, evalSeq_ok_exit h1 (evalSeq_exit h2), rfl⟩
  rcases bind1_inv h with ⟨k, c3, h3, rfl⟩ | ⟨v, c3, h3, h⟩
  · exact Or.inl ⟨f, k, c3, evalSeq_ok_exit h1 (evalSeq_ok_exit h2 (evalSeq_exit h3)), rfl⟩
  · exact Or.inr ⟨f, _, c3, evalSeq_ok_ok h1 (evalSeq_ok_ok h2 (evalSeq_ok_ok h3 rfl)), a, b, v, rfl, h⟩

theorem sem_substr2 {value start stop : Expr} (ihA : SemE ctx T B start) (ihB : SemE ctx T B stop) (ihV : SemE ctx T B value) :
    SemE ctx T B (.substr value start (some stop)) := by
  intro s res s' hf hc h
  unfold Tr.evalExpr at h
  have hf : (fragE (tnames T) start && fragE (tnames T) stop && fragE (tnames T) value) = true := hf
  rw [Bool.and_eq_true, Bool.and_eq_true] at hf
  obtain ⟨a, s1, hA, hc1, h⟩ := ihA.bind hf.1.1 hc h
  obtain ⟨b, s2, hB, hc2, h⟩ := ihB.bind hf.1.2 hc1 h
  obtain ⟨v, s3, hV, hc3, h⟩ := ihV.bind hf.2 hc2 h
  obtain ⟨t, s4, hop, h⟩ := EM.bind_ok h
  obtain ⟨rfl, rfl⟩ := EM.pure_ok h
  dsimp only [conv] at hop
  rw [stringSubscript_specF, hc3] at hop
  cases hop
  refine (hA.seq (hB.seq (hV.seq .nil))).op _ rfl
    (.cons (sline_helper _ _ _ _ _ rfl rfl) (.one (sline_special3 _ _ _ _ _ _))) fun fuel c res hs => (src_substr2 hs).imp ?_
  rintro _ c3 ⟨a', b', v', rfl, hk⟩
  unfold substr2T at hk
  split at hk
  case h_2 => cases hk
  rename_i i j str ra rb rv
  split at hk
  case h_2 => cases hk
  rename_i n l hn hl
  split at hk
  case isFalse => cases hk
  cases hk
  exact ⟨_, c3, rfl, fun m hi hh => substr_post hi hh.2.2.1 hh.1 hh.2.1 rv ra rb hn hl⟩

theorem sem_copy {dst : Var} {src : Expr} (ih : SemE ctx T B src) : SemE ctx T B (.copy dst src) := by
  intro s res s' hf hc h
  unfold Tr.evalExpr at h
  have hf : (goodName2 dst.name && fragE (tnames T) src) = true := hf
  rw [Bool.and_eq_true] at hf
  obtain ⟨a, s1, hx, hc1, h⟩ := ih.bind hf.2 hc h
  obtain ⟨t, s2, hop, h⟩ := EM.bind_ok h
  obtain ⟨rfl, rfl⟩ := EM.pure_ok h
  dsimp only [conv] at hop
  rw [copyOp_specF, hc1] at hop
  cases hop
  refine hx.op _ rfl (.cons (sline_helper _ _ _ _ _ rfl rfl) (.one (sline_plain _ _ _ _ rfl rfl))) fun fuel c res hs => ?_
  obtain ⟨f, rfl⟩ := evalE_pos hs
  exact (bind1_via (evalE_copy ▸ hs)).imp fun _ _ ⟨_, e, hk⟩ => e ▸ copy_post hk

theorem sem_sliceNew {dt : DataType} {vals : List Expr} (ih : SemEs ctx T B vals) : SemE ctx T B (.sliceNew dt vals) := by
  intro s res s' hf hc h
  unfold Tr.evalExpr at h
  obtain ⟨as, s1, hA, hc1, h⟩ := ih.bind hf hc h
  obtain ⟨t, s2, hop, h⟩ := EM.bind_ok h
  obtain ⟨rfl, rfl⟩ := EM.pure_ok h
  dsimp only [conv] at hop
  rw [sliceInstantiation_specF, hc1] at hop
  cases hop
  refine hA.op _ rfl (LinesOK.append (LinesOK.reverse (sahInitLines_ok _ _ _ _ _ _))
    (.cons (sline_helper _ _ _ _ _ rfl rfl) (.one (sline_special1 _ _ _ _ (by decide) rfl rfl)))) fun fuel c res hs => ?_
  obtain ⟨f, rfl⟩ := evalE_pos hs
  exact (bindL_via (evalE_sliceNew ▸ hs)).imp fun _ _ => sliceNew_post

theorem sem_call (hT : TableOK T) (hctx : CtxOK ctx T B) {name : String} {rets : List ValueType} {args : List Expr}
    (ih : SemEs ctx T B args) : SemE ctx T B (.call name rets args) := by
  intro s res s' hf hc h
  unfold Tr.evalExpr at h
  have hf : ((tnames T).contains name && fragEs (tnames T) args) = true := hf
  simp only [Bool.and_eq_true, List.contains_iff_mem, tnames, List.mem_map] at hf
  obtain ⟨⟨e, he, rfl⟩, hfa⟩ := hf
  obtain ⟨as, s1, hA, hc1, h⟩ := ih.bind hfa hc h
  obtain ⟨vs, s2, hcall, h⟩ := EM.bind_ok h
  have hcall : funcCall e.fd.name as rets true s1 = .ok (vs, s2) := hcall
  rw [funcCall_specF, hc1] at hcall
  cases hcall
  simp only [C02.copyVals_length, bne_self_eq_false, Bool.and_false, Bool.false_eq_true, if_false] at h
  obtain ⟨rfl, rfl⟩ := EM.pure_ok h
  refine hA.bind Req.none (reqSt_none _).symm ?_ fun fuel c res hs =>
    (call_line hT hctx he hs (as := as) (n := s1.varCounter)).imp fun os c1 hcall m1 hi1 hh1 => ?_
  · refine (copyLines_ok ctx _ _ _ _ _).reverse.append (.one ⟨fun x hx => by simp [lineTargets] at hx, fun nm ar e' => ?_, rfl⟩)
    rw [← (Line.callFn.inj e').1]
    exact List.mem_map_of_mem he
  rcases hcall m1 hi1 hh1 with ⟨vs', c2, m3, rfl, hvl', exc, hi3, hc3, hk3, hrv3⟩ | ⟨k, c2, m3, rfl, exc, ho3⟩
  · obtain ⟨m4, ex4, hi4, hc4, hk4, _, hh4⟩ := copy_sem ctx T B s1.varCounter vs' 0 s1.varCounter _ m3 (Nat.le_refl _) hi3 hrv3
    rw [hvl'] at ex4 hh4
    exact ⟨m4, by rw [map_reverse_append, List.reverse_reverse]; exact ExecCmds.cons exc ex4, hi4, hc3.trans hc4, (hk3 _).trans hk4 (Nat.le_refl _), fun _ => hh4⟩
  · exact ⟨m3, by rw [map_reverse_append, List.reverse_reverse]; exact ExecCmds.stop exc nofun, ho3⟩

end

/-- by the recursion scheme of the walk over expressions (one case per arm of `evalExpr`, `evalAppChain`, `evalArgs`, in their order;
    `cases hf`: outside the fragment) -/
theorem exprs_semF {ctx : Ctx} {T : List FEntry} {B : Nat} (hT : TableOK T) (hctx : CtxOK ctx T B) :
    (∀ (e : Expr) (used : Bool), used = true → SemE ctx T B e) ∧ (∀ _ : Expr, True) ∧ ∀ es : List Expr, SemEs ctx T B es := by
  refine Tr.evalExpr.mutual_induct _ (fun _ => True) _ ?boolLit ?intLit ?strLit ?unary ?binary ?compare ?logical ?varEval ?sliceEval ?substr1
    ?substr2 ?group ?call ?app ?sliceNew ?inputNone ?inputSome ?copy ?itoa ?exists_ ?len ?readOther ?read ?write ?bad ?chainSome ?chainNone
    ?chainOther ?argsNil ?argsCons
  case boolLit => exact fun _ b _ => sem_boolLit b
  case intLit => exact fun _ n _ => sem_intLit n
  case strLit => exact fun _ lit _ => sem_strLit lit
  case unary => exact fun _ _ _ _ ih _ => sem_unary (ih rfl)
  case binary => exact fun _ _ _ _ ihl ihr _ => sem_binary (ihl rfl) (ihr rfl)
  case compare => exact fun _ _ _ _ ihl ihr _ => sem_compare (ihl rfl) (ihr rfl)
  case logical => exact fun _ _ _ _ ihl ihr _ => sem_logical (ihl rfl) (ihr rfl)
  case varEval => exact fun _ x _ => sem_varEval x
  case sliceEval => exact fun _ _ _ _ ihl ihr _ => sem_sliceEval (ihl rfl) (ihr rfl)
  case substr1 => exact fun _ _ _ ihA ihV _ => sem_substr1 (ihA rfl) (ihV rfl)
  case substr2 => exact fun _ _ _ _ ihA ihB ihV _ => sem_substr2 (ihA rfl) (ihB rfl) (ihV rfl)
  case group => exact fun _ _ ih hu => sem_group (ih hu)
  case call => exact fun _ _ _ _ ih _ => sem_call hT hctx ih
  case app => intro _ _ _ _ _ _ _ _ _ hf; cases hf
  case sliceNew => exact fun _ _ _ ih _ => sem_sliceNew ih
  case inputNone => intro _ _ _ _ _ hf; cases hf
  case inputSome => intro _ _ _ _ _ _ _ hf; cases hf
  case copy => exact fun _ _ _ ih _ => sem_copy (ih rfl)
  case itoa => exact fun _ _ ih _ => sem_itoa (ih rfl)
  case exists_ => intro _ _ _ _ _ _ _ hf; cases hf
  case len => exact fun _ _ ih _ => sem_len (ih rfl)
  case readOther => intro _ _ _ _ _ _ _ hf; cases hf
  case read => intro _ _ _ _ _ _ _ _ hf; cases hf
  case write => intro _ _ _ _ _ _ _ _ hf; cases hf
  case bad => intro _ _ _ _ _ _ hf; cases hf
  case chainSome => intros; trivial
  case chainNone => intros; trivial
  case chainOther => intros; trivial
  case argsNil => exact sem_args_nil
  case argsCons => exact fun _ _ ihe ihr => sem_args_cons (ihe rfl) ihr

theorem expr_semF {ctx : Ctx} {T : List FEntry} {B : Nat} (hT : TableOK T) (hctx : CtxOK ctx T B) {e : Expr} {s s' : St} {r : List String}
    (hf : fragE (tnames T) e = true) (hc : ctxOf s = ctx) (h : Tr.evalExpr conv e true s = .ok (r, s')) :
    Emits ctx T B (fun f c => evalE f e c) s r s' :=
  (exprs_semF hT hctx).1 e true rfl s r s' hf hc h

theorem args_semF {ctx : Ctx} {T : List FEntry} {B : Nat} (hT : TableOK T) (hctx : CtxOK ctx T B) {es : List Expr} {s s' : St} {ts : List String}
    (hf : fragEs (tnames T) es = true) (hc : ctxOf s = ctx) (h : Tr.evalArgs conv es s = .ok (ts, s')) :
    Emits ctx T B (fun f c => Src.evalArgs f es c) s ts s' :=
  (exprs_semF hT hctx).2.2 es s ts s' hf hc h

end Tsh.Sem2
