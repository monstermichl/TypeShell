/-
  Removing functions that are never called does not change what a program does (source semantics).  Inside a statement this is
  an instance of `Sem2Rel` (`clean_execS`); here the top level, where the definitions are.
-/
import TshVerif.Lemmas.Sem2Rel
namespace Tsh.Sem2.Src
open Tsh Tsh.Tr Tsh.Sem Tsh.Sem.Src

/-- `clK (some keep)`, by `rfl` -/
def cl (keep : List String) (c : SCfg) : SCfg := { c with funs := c.funs.filter (fun fd => keep.contains fd.name) }

theorem readVar_cl (keep : List String) (c : SCfg) (x : Var) : readVar (cl keep c) x = readVar c x := rfl

@[simp] theorem cl_heap (keep : List String) (c : SCfg) : (cl keep c).heap = c.heap := rfl
@[simp] theorem cl_next (keep : List String) (c : SCfg) : (cl keep c).next = c.next := rfl
@[simp] theorem cl_out (keep : List String) (c : SCfg) : (cl keep c).out = c.out := rfl
@[simp] theorem cl_lenv (keep : List String) (c : SCfg) : (cl keep c).lenv = c.lenv := rfl
@[simp] theorem cl_genv (keep : List String) (c : SCfg) : (cl keep c).genv = c.genv := rfl
@[simp] theorem cl_inFn (keep : List String) (c : SCfg) : (cl keep c).inFn = c.inFn := rfl

theorem cl_drop (keep : List String) (c : SCfg) (fd : FunDef) (h : keep.contains fd.name = false) :
    cl keep { c with funs := fd :: c.funs } = cl keep c := by
  simp only [cl]
  rw [List.filter_cons_of_neg (by rw [h]; exact Bool.false_ne_true)]

theorem cl_keep (keep : List String) (c : SCfg) (fd : FunDef) (h : keep.contains fd.name = true) :
    cl keep { c with funs := fd :: c.funs } = { cl keep c with funs := fd :: (cl keep c).funs } := by
  simp only [cl]
  rw [List.filter_cons_of_pos (by exact h)]

theorem clean_execS {keep : List String} {f : Nat} {st : Stmt} {c : SCfg} (hc : callsS keep st = true) (ht : TOK keep c.funs)
    {r : SOut × SCfg} (h : execS f st c = some r) : execS f st (cl keep c) = some (r.1, cl keep r.2) :=
  (((relOK (some keep) [] 0 f).execS (fun _ hk => Option.some.inj hk ▸ hc) (fun _ hk => Option.some.inj hk ▸ ht)).out h).1

theorem cleanP_funcDef (keep : List String) (name : String) (pub : Bool) (rets : List ValueType) (params : List Var) (body rest : List Stmt) :
    cleanP keep (.funcDef name pub rets params body :: rest) =
      if keep.contains name then .funcDef name pub rets params body :: cleanP keep rest else cleanP keep rest :=
  List.filter_cons

theorem top_step (keep : List String) (st : Stmt) (rest : List Stmt) :
    (∃ name pub rets params body, st = .funcDef name pub rets params body) ∨
    (callsTop keep (st :: rest) = (callsS keep st && callsTop keep rest) ∧ cleanP keep (st :: rest) = st :: cleanP keep rest) := by
  cases st
  case funcDef => exact .inl ⟨_, _, _, _, _, rfl⟩
  all_goals exact .inr ⟨rfl, rfl⟩

theorem tok_cons {keep : List String} {fd : FunDef} {funs : List FunDef} (h : keep.contains fd.name = true → callsSs keep fd.body = true)
    (ht : TOK keep funs) : TOK keep (fd :: funs) := by
  intro g hg hk
  rcases List.mem_cons.1 hg with rfl | hg
  · exact h hk
  · exact ht g hg hk

theorem clean_top (keep : List String) {p : List Stmt} : ∀ {f : Nat} {c : SCfg} {o : SOut} {c' : SCfg},
    execSs f p c = some (o, c') → callsTop keep p = true → TOK keep c.funs →
    execSs f (cleanP keep p) (cl keep c) = some (o, cl keep c') := by
  induction p with
  | nil =>
    intro f c o c' h _ _
    cases f with
    | zero => cases h
    | succ f => cases h; rfl
  | cons st rest ihp =>
    intro f c o c' h hc ht
    cases f with
    | zero => cases h
    | succ f =>
    rw [execSs_cons] at h
    rcases top_step keep st rest with ⟨name, pub, rets, params, body, rfl⟩ | ⟨e1, e2⟩
    · cases f with
      | zero => cases h
      | succ f =>
      rw [execS_funcDef] at h
      split at h
      · cases h
      · rename_i hin
        obtain ⟨hb, hr⟩ := Bool.and_eq_true_iff.1 hc
        have hrest := ihp (show execSs (f + 1) rest _ = _ from h) hr
          (tok_cons (fd := ⟨name, params, rets, body⟩) (fun hk => by rw [hk] at hb; exact hb) ht)
        rw [cleanP_funcDef]
        cases hk : keep.contains name with
        | false =>
          -- dropped: the rest runs in the same cleaned configuration, and one more unit of fuel does no harm
          rw [cl_drop keep c _ hk] at hrest
          exact execSs_le (Nat.le_succ _) hrest
        | true =>
          rw [cl_keep keep c _ hk] at hrest
          rw [if_pos rfl, execSs_cons, execS_funcDef, cl_inFn, if_neg hin]
          exact hrest
    · rw [e1] at hc
      have hc := Bool.and_eq_true_iff.1 hc
      rw [e2, execSs_cons]
      cases hx : execS f st c with
      | none => rw [hx] at h; cases h
      | some q =>
        obtain ⟨o1, c1⟩ := q
        rw [hx] at h
        rw [clean_execS hc.1 ht hx]
        cases o1
        case normal => exact ihp h hc.2 (tok_same (funs_execS f [] (.inr (callsS_nds keep [] st hc.1)) hx nofun) ht)
        all_goals cases h; rfl

theorem removal_safe (keep : List String) (p : Program) (h : callsTop keep p = true) (fuel : Nat) (r : Nat × List String)
    (hr : runProgram fuel p = some r) : runProgram fuel (cleanP keep p) = some r := by
  unfold runProgram at hr ⊢
  cases hx : execSs fuel p SCfg.init with
  | none => rw [hx] at hr; cases hr
  | some q =>
    obtain ⟨o, c'⟩ := q
    have e : execSs fuel (cleanP keep p) SCfg.init = some (o, cl keep c') := clean_top keep hx h (fun _ hfd => nomatch hfd)
    rw [hx] at hr
    rw [e]
    cases o <;> exact hr

end Tsh.Sem2.Src
