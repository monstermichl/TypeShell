/-
  Soundness of the block tree for the line-level semantics: whatever `ExecBs` derives for a well-formed tree, `LRun` derives
  for its lines, in continuation-passing form - "if the lines behind the construct end like this, the lines from the
  construct on end like this".  The only fact about the whole script that is used: a label leads to the lines behind its
  definition (`Resolves`).
-/
import TshVerif.Lemmas.SemBLines
import TshVerif.Lemmas.SemBDet
namespace Tsh.SemB
open Tsh Tsh.Batch Tsh.Sem

/-- the names the lines define, in script order: what `afterLabel` searches -/
def labelsOf : List BLine → List String
  | [] => []
  | .clabel n :: r => n :: labelsOf r
  | .label n :: r => n :: labelsOf r
  | _ :: r => labelsOf r

theorem labelsOf_eq : ∀ (A : List BLine), labelsOf A = A.filterMap labelName
  | [] => rfl
  | a :: A => by cases a <;> simp only [labelsOf, labelsOf_eq A] <;> rfl

theorem labelsOf_append (A B : List BLine) : labelsOf (A ++ B) = labelsOf A ++ labelsOf B := by
  simp only [labelsOf_eq, List.filterMap_append]

theorem afterLabel_cons (l : String) (a : BLine) (rest : List BLine) :
    afterLabel l (a :: rest) = if labelName a = some l then some rest else afterLabel l rest := by
  cases a <;> simp [afterLabel, labelName]

theorem afterLabel_append (l : String) : ∀ (A R : List BLine), l ∉ labelsOf A → afterLabel l (A ++ R) = afterLabel l R
  | [], _, _ => rfl
  | a :: A, R, h => by
    rw [labelsOf_eq, List.mem_filterMap] at h
    rw [List.cons_append, afterLabel_cons, if_neg fun e => h ⟨a, List.mem_cons_self, e⟩]
    refine afterLabel_append l A R ?_
    rw [labelsOf_eq, List.mem_filterMap]
    exact fun ⟨x, hx, e⟩ => h ⟨x, List.mem_cons_of_mem a hx, e⟩

theorem afterLabel_split (l : String) (A B : List BLine) (h : l ∉ labelsOf A) : afterLabel l (A ++ .clabel l :: B) = some B := by
  rw [afterLabel_append l A _ h, afterLabel_cons]
  exact if_pos rfl

/-- every construct label leads to the lines behind ITS line: no earlier line of the script defines the same name -/
def Resolves (whole : List BLine) : Prop := ∀ (A : List BLine) (l : String) (B : List BLine), whole = A ++ .clabel l :: B → afterLabel l whole = some B

theorem resolves_of_nodup (whole : List BLine) (h : (labelsOf whole).Nodup) : Resolves whole := by
  intro A l B e
  subst e
  apply afterLabel_split
  rw [labelsOf_append] at h
  simp only [labelsOf] at h
  have := (List.nodup_append.mp h).2.2
  intro hm
  exact this l hm l (by simp) rfl

theorem _root_.List.IsSuffix.of_cons {α} {a : α} {L w : List α} (h : (a :: L) <:+ w) : L <:+ w := (List.suffix_cons a L).trans h
theorem _root_.List.IsSuffix.of_append {α} {A L w : List α} (h : (A ++ L) <:+ w) : L <:+ w := (List.suffix_append A L).trans h

theorem Resolves.at {whole l B} (hR : Resolves whole) (h : (.clabel l :: B) <:+ whole) : afterLabel l whole = some B :=
  let ⟨A, e⟩ := h
  hR A l B e.symm

/-- from `L` in `c` the script comes to `L2` in `c2`: however it ends from there, it ends from here -/
def Leads (whole : List BLine) (L : List BLine) (c : Cfg) (L2 : List BLine) (c2 : Cfg) : Prop :=
  ∀ o' c', LRun whole L2 c2 o' c' → LRun whole L c o' c'

theorem Leads.refl {whole L c} : Leads whole L c L c := fun _ _ h => h

theorem Leads.trans {whole L c L2 c2 L3 c3} (a : Leads whole L c L2 c2) (b : Leads whole L2 c2 L3 c3) : Leads whole L c L3 c3 :=
  fun o' c' h => a o' c' (b o' c' h)

/-- what the lines `L` from `c` do, given that the construct they start with ends with outcome `o` in `c1`, that `K` are
  the lines behind the construct, and that `ctx` are the labels of the enclosing loop -/
def Cont (whole : List BLine) (ctx : LCtx) (K : List BLine) (o : Out) (c1 : Cfg) (L : List BLine) (c : Cfg) : Prop :=
  match o with
  | .normal => Leads whole L c K c1
  | .exit k => LRun whole L c (.exit k) c1
  | .brk => ∀ h e tgt, ctx = some (h, e) → afterLabel e whole = some tgt → Leads whole L c tgt c1
  | .cont => ∀ h e tgt, ctx = some (h, e) → afterLabel h whole = some tgt → Leads whole L c tgt c1

theorem Cont.pre {whole ctx K o c1 L c L2 c2} (a : Leads whole L c L2 c2) (b : Cont whole ctx K o c1 L2 c2) : Cont whole ctx K o c1 L c := by
  cases o with
  | normal => exact Leads.trans a b
  | exit k => exact a _ _ b
  | brk => exact fun h e tgt hc ht => Leads.trans a (b h e tgt hc ht)
  | cont => exact fun h e tgt hc ht => Leads.trans a (b h e tgt hc ht)

theorem Cont.post {whole ctx K K2 o c1 L c} (a : Leads whole K c1 K2 c1) (b : Cont whole ctx K o c1 L c) : Cont whole ctx K2 o c1 L c := by
  cases o with
  | normal => exact Leads.trans b a
  | exit k => exact b
  | brk => exact b
  | cont => exact b

theorem Cont.abrupt {whole ctx K K2 o c1 L c} (hne : o ≠ .normal) (b : Cont whole ctx K o c1 L c) : Cont whole ctx K2 o c1 L c := by
  cases o with
  | normal => exact absurd rfl hne
  | exit k => exact b
  | brk => exact b
  | cont => exact b

theorem leads_close {whole K c} : Leads whole (.close :: K) c K c := fun _ _ h => .close h
theorem leads_label {whole n K c} : Leads whole (.clabel n :: K) c K c := fun _ _ h => .label h
theorem leads_jump {whole n R tgt c} (h : afterLabel n whole = some tgt) : Leads whole (.cgoto n :: R) c tgt c := fun _ _ r => .jump h r

theorem leads_if {whole g R c} (h : guardB c.ρ g = some true) : Leads whole (.opn (ifStartLine g) :: R) c R c :=
  fun _ _ r => .enter ((blockTest_if _ _).trans h) r

theorem cont_simple {whole ctx K l c o c1} (hs : stepB l c = some (o, c1)) : Cont whole ctx K o c1 (l :: K) c := by
  rcases stepB_outcome hs with rfl | ⟨k, rfl⟩
  · exact fun _ _ r => .simple hs r
  · exact .exit hs

theorem skip_branch (ctx : LCtx) {b : List BCmd} (hw : wfBs b = true) (n : String) {x : BLine} (hx : isCloser x = true) (R : List BLine) :
    skipBlock 0 (flats ctx b ++ .cgoto n :: x :: R) = some (x :: R) := by
  rw [skipBlock_flats ctx b hw, skipBlock_cgoto]
  cases x <;> first | rfl | cases hx

theorem leads_branchEnd {whole ctx lbl K c} (h : afterLabel lbl whole = some K) (es : List (String × List BCmd)) (els : Option (List BCmd))
    (R : List BLine) : Leads whole (flatElifs ctx lbl es ++ (flatElse ctx lbl els ++ .cgoto lbl :: R)) c K c := by
  cases es with
  | cons e rest => exact leads_jump h
  | nil => cases els <;> exact leads_jump h

/-
  By induction on the derivation.  `hp` says where in the script the lines of the construct stand; the parts of the
  construct stand at the positions that `of_cons` / `of_append` reach from there, and so do its labels (`hR.at`).
  For the chain behind a first branch `thn0` whose test `g0` is false, a `) else if … (` line whose turn it is is read as
  the opening line of its own test; the loop is taken from the line behind its head label. -/

theorem exec_leads {whole : List BLine} (hR : Resolves whole) :
    (∀ {x c o c1}, ExecB x c o c1 → ∀ (ctx : LCtx) (K : List BLine), wfB x = true → (flat ctx x ++ K) <:+ whole →
      Cont whole ctx K o c1 (flat ctx x ++ K) c) ∧
    (∀ {xs c o c1}, ExecBs xs c o c1 → ∀ (ctx : LCtx) (K : List BLine), wfBs xs = true → (flats ctx xs ++ K) <:+ whole →
      Cont whole ctx K o c1 (flats ctx xs ++ K) c) ∧
    (∀ {es els c o c1}, ExecElifsB es els c o c1 → ∀ (ctx : LCtx) (lbl g0 : String) (thn0 : List BCmd) (K : List BLine),
      wfElifs es = true → wfElse els = true → wfBs thn0 = true → guardB c.ρ g0 = some false →
      (flats ctx thn0 ++ (flatElifs ctx lbl es ++ (flatElse ctx lbl els ++ .cgoto lbl :: .close :: .clabel lbl :: K))) <:+ whole →
      Cont whole ctx K o c1 (.opn (ifStartLine g0) ::
        (flats ctx thn0 ++ (flatElifs ctx lbl es ++ (flatElse ctx lbl els ++ .cgoto lbl :: .close :: .clabel lbl :: K)))) c) ∧
    (∀ {pre g body c o c1}, ExecLoopB pre g body c o c1 → ∀ (ctx : LCtx) (n : Nat) (K : List BLine),
      wfBs pre = true → wfBs body = true →
      (.clabel (forLabel n) :: (flats (some (forLabel n, endLabel n)) pre ++ (.opn (ifStartLine g) ::
        (flats (some (forLabel n, endLabel n)) body ++ .cgoto (forLabel n) :: .close :: .clabel (endLabel n) :: K)))) <:+ whole →
      Cont whole ctx K o c1 (flats (some (forLabel n, endLabel n)) pre ++ (.opn (ifStartLine g) ::
        (flats (some (forLabel n, endLabel n)) body ++ .cgoto (forLabel n) :: .close :: .clabel (endLabel n) :: K))) c) :=
  exec_induct
    (simple := fun hs _ _ _ _ => cont_simple hs)
    (guardedRun := fun {n _ c _ _} hf _ ih ctx K hw hp => by
      simp only [wfB] at hw
      simp only [flat, List.cons_append, List.append_assoc, List.nil_append] at hp ⊢
      have ht : blockTest c.ρ ("if defined " ++ flagName n ++ " (") = some true := by
        rw [blockTest_defined]; simp [hf]
      exact Cont.pre (fun _ _ r => .enter ht r) (Cont.post leads_close (ih ctx _ hw hp.of_cons)))
    (guardedSkip := fun {n body c} hf ctx K hw _ => by
      simp only [wfB] at hw
      simp only [flat, List.cons_append, List.append_assoc, List.nil_append]
      have ht : blockTest c.ρ ("if defined " ++ flagName n ++ " (") = some false := by
        rw [blockTest_defined]; simp [hf]
      have hs : skipBlock 0 (flats ctx body ++ .close :: K) = some (.close :: K) := by
        rw [skipBlock_flats ctx body hw]; rfl
      exact fun _ _ r => .skipToClose ht hs r)
    (chainTrue := fun {_ _ _ elifs els _ _ _} hg _ ih ctx K hw hp => by
      simp only [wfB, Bool.and_eq_true] at hw
      simp only [flat, List.cons_append, List.append_assoc, List.nil_append] at hp ⊢
      have hlbl := hR.at hp.of_cons.of_append.of_append.of_append.of_cons.of_cons
      exact Cont.pre (leads_if hg) (Cont.post (leads_branchEnd hlbl elifs els _) (ih ctx _ hw.1.1 hp.of_cons)))
    (chainFalse := fun hg _ ih ctx K hw hp => by
      simp only [wfB, Bool.and_eq_true] at hw
      simp only [flat, List.cons_append, List.append_assoc, List.nil_append] at hp ⊢
      exact ih ctx _ _ _ K hw.1.2 hw.2 hw.1.1 hg hp.of_cons)
    (loop := fun _ ih ctx K hw hp => by
      simp only [wfB, Bool.and_eq_true] at hw
      simp only [flat, List.cons_append, List.append_assoc, List.nil_append] at hp ⊢
      exact Cont.pre leads_label (ih ctx _ K hw.1 hw.2 hp))
    (brk := fun _ _ _ _ _ _ _ hc ht => by subst hc; exact leads_jump ht)
    (cont := fun _ _ _ _ _ _ _ hc ht => by subst hc; exact leads_jump ht)
    (nil := fun _ _ _ _ => Leads.refl)
    (cons := fun _ _ ih1 ih2 ctx K hw hp => by
      simp only [wfBs, Bool.and_eq_true] at hw
      simp only [flats, List.append_assoc] at hp ⊢
      exact Cont.pre (ih1 ctx _ hw.1 hp) (ih2 ctx K hw.2 hp.of_append))
    (stop := fun _ hne ih ctx K hw hp => by
      simp only [wfBs, Bool.and_eq_true] at hw
      simp only [flats, List.append_assoc] at hp ⊢
      exact Cont.abrupt hne (ih ctx _ hw.1 hp))
    (none := fun ctx lbl _ _ _ _ _ hw0 hg0 _ _ _ r =>
      .skipToClose ((blockTest_if _ _).trans hg0) (skip_branch ctx hw0 lbl rfl _) (.label r))
    (els := fun _ ih ctx lbl _ _ _ _ hwl hw0 hg0 hp => by
      have hlbl := hR.at hp.of_append.of_append.of_append.of_cons.of_cons
      simp only [flatElifs, flatElse, List.nil_append, List.cons_append] at hp ⊢
      exact Cont.pre (fun _ _ r => .skipToElse ((blockTest_if _ _).trans hg0) (skip_branch ctx hw0 lbl rfl _) r)
        (Cont.post (leads_jump hlbl) (ih ctx _ hwl hp.of_append.of_cons.of_cons)))
    (hit := fun {_ _ rest els _ _ _} hg _ ih ctx lbl _ _ _ hwe _ hw0 hg0 hp => by
      have hlbl := hR.at hp.of_append.of_append.of_append.of_cons.of_cons
      simp only [wfElifs, Bool.and_eq_true] at hwe
      simp only [flatElifs, List.cons_append, List.append_assoc] at hp ⊢
      exact Cont.pre (fun _ _ r => .skipToElseIf ((blockTest_if _ _).trans hg0) (skip_branch ctx hw0 lbl rfl _) (leads_if hg _ _ r))
        (Cont.post (leads_branchEnd hlbl rest els _) (ih ctx _ hwe.1 hp.of_append.of_cons.of_cons)))
    (miss := fun hg _ ih ctx lbl _ _ K hwe hwl hw0 hg0 hp => by
      simp only [wfElifs, Bool.and_eq_true] at hwe
      simp only [flatElifs, List.cons_append, List.append_assoc] at hp ⊢
      exact Cont.pre (fun _ _ r => .skipToElseIf ((blockTest_if _ _).trans hg0) (skip_branch ctx hw0 lbl rfl _) r)
        (ih ctx lbl _ _ K hwe.2 hwl hwe.1 hg hp.of_append.of_cons.of_cons))
    (loopDone := fun _ hg ihp _ _ _ hwp hwb hp =>
      (ihp _ _ hwp hp.of_cons).trans fun _ _ r =>
        .skipToClose ((blockTest_if _ _).trans hg) (skip_branch _ hwb _ rfl _) (.label r))
    (loopNext := fun _ hg _ _ ihp ihb ihr ctx n K hwp hwb hp =>
      Cont.pre (((ihp _ _ hwp hp.of_cons).trans (leads_if hg)).trans
        ((ihb _ _ hwb hp.of_cons.of_append.of_cons).trans (leads_jump (hR.at hp)))) (ihr ctx n K hwp hwb hp))
    (loopCont := fun _ hg _ _ ihp ihb ihr ctx n K hwp hwb hp =>
      Cont.pre (((ihp _ _ hwp hp.of_cons).trans (leads_if hg)).trans
        (ihb _ _ hwb hp.of_cons.of_append.of_cons _ _ _ rfl (hR.at hp))) (ihr ctx n K hwp hwb hp))
    (loopBrk := fun _ hg _ ihp ihb _ _ _ hwp hwb hp =>
      ((ihp _ _ hwp hp.of_cons).trans (leads_if hg)).trans (ihb _ _ hwb hp.of_cons.of_append.of_cons _ _ _ rfl
        (hR.at hp.of_cons.of_append.of_cons.of_append.of_cons.of_cons)))
    (loopExit := fun _ hg _ ihp ihb _ _ _ hwp hwb hp =>
      ihp _ _ hwp hp.of_cons _ _ (leads_if hg _ _ (ihb _ _ hwb hp.of_cons.of_append.of_cons)))

theorem sound_B {whole : List BLine} (hR : Resolves whole) {x : BCmd} {c : Cfg} {o : Out} {c1 : Cfg} (hx : ExecB x c o c1) (hw : wfB x = true)
    (ctx : LCtx) (P K : List BLine) (hp : whole = P ++ (flat ctx x ++ K)) : Cont whole ctx K o c1 (flat ctx x ++ K) c :=
  (exec_leads hR).1 hx ctx K hw ⟨P, hp.symm⟩

theorem sound_Bs {whole : List BLine} (hR : Resolves whole) {xs : List BCmd} {c : Cfg} {o : Out} {c1 : Cfg} (hx : ExecBs xs c o c1) (hw : wfBs xs = true)
    (ctx : LCtx) (P K : List BLine) (hp : whole = P ++ (flats ctx xs ++ K)) : Cont whole ctx K o c1 (flats ctx xs ++ K) c :=
  (exec_leads hR).2.1 hx ctx K hw ⟨P, hp.symm⟩

theorem sound_Elifs {whole : List BLine} (hR : Resolves whole) {es : List (String × List BCmd)} {els : Option (List BCmd)} {c : Cfg} {o : Out} {c1 : Cfg}
    (hx : ExecElifsB es els c o c1) (hwe : wfElifs es = true) (hwl : wfElse els = true)
    (ctx : LCtx) (lbl g0 : String) (thn0 : List BCmd) (P K : List BLine) (hw0 : wfBs thn0 = true) (hg0 : guardB c.ρ g0 = some false)
    (hp : whole = P ++ (flats ctx thn0 ++ (flatElifs ctx lbl es ++ (flatElse ctx lbl els ++ .cgoto lbl :: .close :: .clabel lbl :: K)))) :
    Cont whole ctx K o c1 (.opn (ifStartLine g0) :: (flats ctx thn0 ++ (flatElifs ctx lbl es ++ (flatElse ctx lbl els ++ .cgoto lbl :: .close :: .clabel lbl :: K)))) c :=
  (exec_leads hR).2.2.1 hx ctx lbl g0 thn0 K hwe hwl hw0 hg0 ⟨P, hp.symm⟩

theorem sound_Loop {whole : List BLine} (hR : Resolves whole) {pre : List BCmd} {g : String} {body : List BCmd} {c : Cfg} {o : Out} {c1 : Cfg}
    (hx : ExecLoopB pre g body c o c1) (hwp : wfBs pre = true) (hwb : wfBs body = true)
    (ctx : LCtx) (n : Nat) (P K : List BLine)
    (hp : whole = P ++ .clabel (forLabel n) :: (flats (some (forLabel n, endLabel n)) pre ++
      (.opn (ifStartLine g) :: (flats (some (forLabel n, endLabel n)) body ++ .cgoto (forLabel n) :: .close :: .clabel (endLabel n) :: K)))) :
    Cont whole ctx K o c1 (flats (some (forLabel n, endLabel n)) pre ++
      (.opn (ifStartLine g) :: (flats (some (forLabel n, endLabel n)) body ++ .cgoto (forLabel n) :: .close :: .clabel (endLabel n) :: K))) c :=
  (exec_leads hR).2.2.2 hx ctx n K hwp hwb ⟨P, hp.symm⟩

end Tsh.SemB
