/-
  The executable interpreter of the bash model is sound and complete for the big-step relation: what `execCmds` computes (the
  thing run next to /bin/bash in every check) is what the relation derives, and with enough fuel it finds every outcome the
  relation allows; so the relation, being what a function computes, is deterministic.
-/
import TshVerif.Sem.Bash
namespace Tsh.Sem
open Tsh Tsh.Bash

theorem exec_sound (fuel : Nat) :
    (∀ x c o c', execCmd fuel x c = some (o, c') → ExecCmd x c o c') ∧
    (∀ xs c o c', execCmds fuel xs c = some (o, c') → ExecCmds xs c o c') ∧
    (∀ es els c o c', execElifs fuel es els c = some (o, c') → ExecElifs es els c o c') ∧
    (∀ body c o c', execLoop fuel body c = some (o, c') → ExecLoop body c o c') := by
  induction fuel with
  | zero =>
    refine ⟨?_, ?_, ?_, ?_⟩ <;> intros <;> contradiction
  | succ f ih =>
    obtain ⟨cmd, cmds, elifs, loop⟩ := ih
    refine ⟨?_, ?_, ?_, ?_⟩
    · intro x c o c' h
      cases x with
      | simple l => exact .simple h
      | ifc g thn es els =>
        rw [execCmd] at h
        split at h
        · exact .ifTrue ‹_› (cmds _ _ _ _ h)
        · exact .ifFalse ‹_› (elifs _ _ _ _ _ h)
        · cases h
      | loop body => exact .loop (loop _ _ _ _ h)
    · intro xs c o c' h
      cases xs with
      | nil => cases h; exact .nil
      | cons x xs =>
        rw [execCmds] at h
        split at h
        · exact .cons (cmd _ _ _ _ ‹_›) (cmds _ _ _ _ h)
        · rename_i hr
          exact .stop (cmd _ _ _ _ h) (fun e => hr c' (e ▸ h))
    · intro es els c o c' h
      match es, els with
      | [], none => cases h; exact .none
      | [], some b => exact .els (cmds _ _ _ _ h)
      | (g, b) :: rest, els =>
        rw [execElifs] at h
        split at h
        · exact .hit ‹_› (cmds _ _ _ _ h)
        · exact .miss ‹_› (elifs _ _ _ _ _ h)
        · cases h
    · intro body c o c' h
      rw [execLoop] at h
      split at h
      · exact .next (cmds _ _ _ _ ‹_›) (loop _ _ _ _ h)
      · exact .cont (cmds _ _ _ _ ‹_›) (loop _ _ _ _ h)
      · cases h; exact .brk (cmds _ _ _ _ ‹_›)
      · cases h; exact .exit (cmds _ _ _ _ ‹_›)
      · cases h

theorem execCmd_sound : ∀ (fuel : Nat) (x : Cmd) (c : Cfg) (o : Out) (c' : Cfg), execCmd fuel x c = some (o, c') → ExecCmd x c o c' :=
  fun fuel => (exec_sound fuel).1
theorem execCmds_sound : ∀ (fuel : Nat) (xs : List Cmd) (c : Cfg) (o : Out) (c' : Cfg), execCmds fuel xs c = some (o, c') → ExecCmds xs c o c' :=
  fun fuel => (exec_sound fuel).2.1
theorem execElifs_sound : ∀ (fuel : Nat) (es : List (Line × List Cmd)) (els : Option (List Cmd)) (c : Cfg) (o : Out) (c' : Cfg),
    execElifs fuel es els c = some (o, c') → ExecElifs es els c o c' :=
  fun fuel => (exec_sound fuel).2.2.1
theorem execLoop_sound : ∀ (fuel : Nat) (body : List Cmd) (c : Cfg) (o : Out) (c' : Cfg), execLoop fuel body c = some (o, c') → ExecLoop body c o c' :=
  fun fuel => (exec_sound fuel).2.2.2

/-- By induction on the derivation, all four relations at once: the recursors share their minor premises. -/
theorem exec_complete :
    (∀ {x c o c'}, ExecCmd x c o c' → ∃ f, ∀ g, f ≤ g → execCmd g x c = some (o, c')) ∧
    (∀ {xs c o c'}, ExecCmds xs c o c' → ∃ f, ∀ g, f ≤ g → execCmds g xs c = some (o, c')) ∧
    (∀ {es els c o c'}, ExecElifs es els c o c' → ∃ f, ∀ g, f ≤ g → execElifs g es els c = some (o, c')) ∧
    (∀ {body c o c'}, ExecLoop body c o c' → ∃ f, ∀ g, f ≤ g → execLoop g body c = some (o, c')) := by
  refine ⟨
    @ExecCmd.rec _ _ _ _ ?simple ?ifTrue ?ifFalse ?loop ?nil ?cons ?stop ?none ?els ?hit ?miss ?next ?cont ?brk ?exit,
    @ExecCmds.rec _ _ _ _ ?simple ?ifTrue ?ifFalse ?loop ?nil ?cons ?stop ?none ?els ?hit ?miss ?next ?cont ?brk ?exit,
    @ExecElifs.rec _ _ _ _ ?simple ?ifTrue ?ifFalse ?loop ?nil ?cons ?stop ?none ?els ?hit ?miss ?next ?cont ?brk ?exit,
    @ExecLoop.rec _ _ _ _ ?simple ?ifTrue ?ifFalse ?loop ?nil ?cons ?stop ?none ?els ?hit ?miss ?next ?cont ?brk ?exit⟩
  case simple => exact fun h => ⟨1, from_succ fun _ _ => h⟩
  case ifTrue | ifFalse => exact fun hg _ ⟨f, ih⟩ => ⟨f + 1, from_succ fun g hf => by simp only [execCmd, hg, ih g hf]⟩
  case loop => exact fun _ ⟨f, ih⟩ => ⟨f + 1, from_succ fun g hf => by simp only [execCmd, ih g hf]⟩
  case nil | none => exact ⟨1, from_succ fun _ _ => rfl⟩
  case cons =>
    exact fun _ _ ⟨f1, ih1⟩ ⟨f2, ih2⟩ => ⟨max f1 f2 + 1, from_succ fun g hf => by
      simp only [execCmds, ih1 g (Nat.max_le.mp hf).1, ih2 g (Nat.max_le.mp hf).2]⟩
  case stop =>
    exact fun {_ _ _ o _} _ hne ⟨f, ih⟩ => ⟨f + 1, from_succ fun g hf => by
      simp only [execCmds, ih g hf]
      cases o <;> first | rfl | exact absurd rfl hne⟩
  case els => exact fun _ ⟨f, ih⟩ => ⟨f + 1, from_succ fun g hf => by simp only [execElifs, ih g hf]⟩
  case hit | miss => exact fun hg _ ⟨f, ih⟩ => ⟨f + 1, from_succ fun g hf => by simp only [execElifs, hg, ih g hf]⟩
  case next | cont =>
    exact fun _ _ ⟨f1, ih1⟩ ⟨f2, ih2⟩ => ⟨max f1 f2 + 1, from_succ fun g hf => by
      simp only [execLoop, ih1 g (Nat.max_le.mp hf).1, ih2 g (Nat.max_le.mp hf).2]⟩
  case brk | exit => exact fun _ ⟨f, ih⟩ => ⟨f + 1, from_succ fun g hf => by simp only [execLoop, ih g hf]⟩

theorem execCmd_det {x : Cmd} {c : Cfg} {o1 o2 : Out} {c1 c2 : Cfg} (h1 : ExecCmd x c o1 c1) (h2 : ExecCmd x c o2 c2) : o1 = o2 ∧ c1 = c2 :=
  Prod.mk.inj (det_of_complete (exec_complete.1 h1) (exec_complete.1 h2))
theorem execCmds_det {xs : List Cmd} {c : Cfg} {o1 o2 : Out} {c1 c2 : Cfg} (h1 : ExecCmds xs c o1 c1) (h2 : ExecCmds xs c o2 c2) : o1 = o2 ∧ c1 = c2 :=
  Prod.mk.inj (det_of_complete (exec_complete.2.1 h1) (exec_complete.2.1 h2))
theorem execElifs_det {es : List (Line × List Cmd)} {els : Option (List Cmd)} {c : Cfg} {o1 o2 : Out} {c1 c2 : Cfg}
    (h1 : ExecElifs es els c o1 c1) (h2 : ExecElifs es els c o2 c2) : o1 = o2 ∧ c1 = c2 :=
  Prod.mk.inj (det_of_complete (exec_complete.2.2.1 h1) (exec_complete.2.2.1 h2))
theorem execLoop_det {body : List Cmd} {c : Cfg} {o1 o2 : Out} {c1 c2 : Cfg} (h1 : ExecLoop body c o1 c1) (h2 : ExecLoop body c o2 c2) : o1 = o2 ∧ c1 = c2 :=
  Prod.mk.inj (det_of_complete (exec_complete.2.2.2 h1) (exec_complete.2.2.2 h2))

theorem exec_agrees {fuel : Nat} {xs : List Cmd} {c c1 c2 : Cfg} {o1 o2 : Out}
    (h1 : execCmds fuel xs c = some (o1, c1)) (h2 : ExecCmds xs c o2 c2) : o1 = o2 ∧ c1 = c2 :=
  execCmds_det (execCmds_sound fuel xs c o1 c1 h1) h2

end Tsh.Sem
