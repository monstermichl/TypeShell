/-
  Straight-line statements of the scalar fragment, Batch target: `StmtSemB`, the claim about the lines of a statement; `print` and
  `panic`, which go through the echo routine.
-/
import TshVerif.Lemmas.SemBExprMain
namespace Tsh.SemB
open Tsh Tsh.Tr Tsh.Batch Tsh.Sem

theorem runLinesB_of_runLines {ls : List BLine} {c c1 : Cfg} (h : batchT.runLines ls c = some c1) (rest : List BLine) :
    runLinesB (ls ++ rest) c = runLinesB rest c1 := by
  induction ls generalizing c with
  | nil => cases h; rfl
  | cons l ls ih =>
    simp only [Target.runLines] at h
    split at h
    · rename_i c2 hs
      simp only [List.cons_append, runLinesB, show stepB l c = _ from hs]
      exact ih h
    · cases h

theorem runLinesB_all_normal {ls : List BLine} {c c1 : Cfg} (h : batchT.runLines ls c = some c1) : runLinesB ls c = some (.normal, c1) := by
  simpa [runLinesB] using runLinesB_of_runLines h []

def Keeps (ρ ρ' : Store) : Prop := ρ' "_e" = ρ "_e" ∧ ∀ j, ρ' (flagName j) = ρ (flagName j)

theorem Keeps.refl (ρ : Store) : Keeps ρ ρ := ⟨rfl, fun _ => rfl⟩
theorem Keeps.trans {ρ ρ1 ρ2 : Store} (h1 : Keeps ρ ρ1) (h2 : Keeps ρ1 ρ2) : Keeps ρ ρ2 :=
  ⟨by rw [h2.1, h1.1], fun j => by rw [h2.2 j, h1.2 j]⟩
theorem Own.keeps {ρ ρ' : Store} (h : Own ρ ρ') : Keeps ρ ρ' := ⟨h _ (by decide) e_ne_helper e_ne_tmp, h.flag⟩
theorem keeps_of_frameH {a b : Nat} {ρ ρ' : Store} (fr : FrameH a b ρ ρ') : Keeps ρ ρ' := Own.keeps fr.own
theorem keeps_set_fa0 {ρ : Store} (v : String) : Keeps ρ (ρ.set "_fa0" v) :=
  ⟨set_other _ _ _ _ (by decide), fun j => set_other _ _ _ _ (flag_ne_fa0 j)⟩

/-- what translating a straight-line statement achieved: new plain lines which, run by `runLinesB`, end as the source does
    (`panic` ends the script: then nothing is claimed of the store) -/
def StmtSemB (src : Nat → Src.SCfg → Option (Out × Src.SCfg)) (s s' : St) : Prop :=
  ∃ new n, Adv s s' new n ∧ ∀ fuel c o c', src fuel c = some (o, c') →
    ∀ ρ, Agree c.env ρ → ∃ ρ', runLinesB new.reverse ⟨ρ, c.out⟩ = some (o, ⟨ρ', c'.out⟩) ∧
      (o = .normal → Agree c'.env ρ' ∧ Keeps ρ ρ')

theorem stmtSemB_of_lines {src} {s s' : St} (h : batchT.LinesSem src s s') : StmtSemB src s s' := by
  obtain ⟨new, n, ad, h⟩ := h
  refine ⟨new, n, ad, fun fuel c o c' hs ρ ha => ?_⟩
  obtain ⟨ρ', run, rfl, ha', ow⟩ := h fuel c o c' hs ρ ha
  exact ⟨ρ', runLinesB_all_normal run, fun _ => ⟨ha', Own.keeps ow⟩⟩

/-- `batchT.HoldsAll` spelt with `HoldsD` -/
def HoldsAllD : List String → List String → Nat → Store → Prop
  | [], [], _, _ => True
  | t :: ts, v :: vs, k, ρ => HoldsD t v k ρ ∧ HoldsAllD ts vs k ρ
  | _, _, _, _ => False

theorem HoldsAllD.frame : ∀ {ts vs : List String} {k k' : Nat} {ρ ρ' : Store}, HoldsAllD ts vs k ρ → k ≤ k' → FrameH k k' ρ ρ' →
    HoldsAllD ts vs k' ρ'
  | [], [] => fun _ _ _ => trivial
  | _ :: _, _ :: _ => fun h hk hf => ⟨Target.Holds.frame (T := batchT) h.1 hk hf, HoldsAllD.frame h.2 hk hf⟩
  | [], _ :: _ => fun h _ _ => h.elim
  | _ :: _, [] => fun h _ _ => h.elim

/-- the two lines of `callEcho`: the text goes into `_fa0`, the echo routine prints it -/
theorem runLinesB_echo {ρ : Store} {text v : String} (out : List String) (hc : CompleteD ρ text.toList v.toList)
    (hs : echoSafe v = true) (rest : List BLine) :
    runLinesB (.set "_fa0" text :: .call "_ech" [] :: rest) ⟨ρ, out⟩ = runLinesB rest ⟨ρ.set "_fa0" v, out ++ [v]⟩ := by
  have e2 : stepB (.call "_ech" []) ⟨ρ.set "_fa0" v, out⟩ = some (.normal, ⟨ρ.set "_fa0" v, out ++ [v]⟩) := by
    simp [stepB, set_same, hs]
  simp only [runLinesB, stepB_setC out "_fa0" hc, e2]

theorem printB_sem {es : List Expr} (hf : (es.all Src.fragExpr) = true) {s s' : St} (h0 : s.funcs = [])
    (h : (do let vs ← evalAll conv es; conv.print vs : BM Unit) s = .ok ((), s')) :
    StmtSemB (fun f c => Src32.execStmt f (.print es) c) s s' := by
  obtain ⟨vals, s1, h1, h2⟩ := EM.bind_ok h
  obtain ⟨new, n, ad, sem⟩ := batchT.evalAll_sem batchOps es s vals s1 hf h0 h1
  refine ⟨_, _, ad.trans (callEcho_top (ad.funcs_nil h0) (show callEcho vals s1 = .ok ((), s') from h2)), ?_⟩
  intro fuel c o c' hs ρ ha
  obtain ⟨vs, hvs, hsafe, rfl, rfl⟩ := src32_print hs
  obtain ⟨ρ1, run1, fr1, hold1⟩ := sem c.env vs hvs ρ c.out ha
  refine ⟨ρ1.set "_fa0" (" ".intercalate (vs.map Src.Val.render)), ?_, fun _ => ⟨(fr1.agree ha).congr (fun x hg => set_other _ _ _ _ (good_ne_fa0 x hg)), ?_⟩⟩
  · rw [List.reverse_append, runLinesB_of_runLines run1]
    exact runLinesB_echo c.out (Target.holdsAll_intercalate (completeD_plain · [' '] (by decide)) hold1) hsafe []
  · exact (keeps_of_frameH fr1).trans (keeps_set_fa0 _)

theorem stepB_set_one (ρ : Store) (out : List String) (x : String) :
    stepB (.set x "1") ⟨ρ, out⟩ = some (.normal, ⟨ρ.set x "1", out⟩) := stepB_setC out x (completeD_bool ρ true)

theorem stepB_goto_end {ρ : Store} (out : List String) (h : ρ "_e" = "1") :
    stepB (.goto "end") ⟨ρ, out⟩ = some (.exit 1, ⟨ρ, out⟩) := by
  have : asCode "1" = some 1 := by
    show asCode (Nat.repr 1) = some 1
    simp [asCode]
  simp [stepB, h, this]

theorem panicB_sem {e : Expr} (hf : Src.fragExpr e = true) {s s' : St} (h0 : s.funcs = [])
    (h : evalStmt conv (.panic e) s = .ok ((), s')) : StmtSemB (fun f c => Src32.execStmt f (.panic e) c) s s' := by
  simp only [evalStmt] at h
  obtain ⟨r, s1, h1, h2⟩ := EM.bind_ok h
  obtain ⟨t, new, n, rfl, ad, sem⟩ := exprB_full e hf true s r s1 h0 h1
  refine ⟨_, _, ad.trans (panicOp_top (ad.funcs_nil h0) (show panicOp ("panic: " ++ t) s1 = .ok ((), s') from h2)), ?_⟩
  intro fuel c o c' hs ρ ha
  obtain ⟨v, hv, hsafe, rfl, rfl⟩ := src32_panic hs
  obtain ⟨ρ1, run1, fr1, hold1⟩ := sem c.env v hv ρ c.out ha
  have hc : CompleteD ρ1 ("panic: " ++ t).toList ("panic: " ++ v.render).toList := by
    rw [String.toList_append, String.toList_append]
    exact CompleteD.append (completeD_plain ρ1 _ (by decide)) hold1.here
  refine ⟨(ρ1.set "_fa0" ("panic: " ++ v.render)).set "_e" "1", ?_, fun h => by simp at h⟩
  rw [List.reverse_append, runLinesB_of_runLines run1]
  show runLinesB [.set "_fa0" ("panic: " ++ t), .call "_ech" [], .set "_e" "1", .goto "end"] _ = _
  rw [runLinesB_echo c.out hc hsafe]
  simp only [runLinesB, stepB_set_one, stepB_goto_end _ (set_same _ _ _)]

end Tsh.SemB
