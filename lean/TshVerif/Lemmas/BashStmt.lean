/-
  The refinement theorem for statements: for every well-formed AST (`Stmt.wf`), what the transpiler
  walk + bash converter model append to the script is a `Shape .blk` (BashShape.lean), numbered from
  the loop counter before to the loop counter after, non-empty, and the loop / function stacks are
  back where they were.
-/
import TshVerif.Lemmas.BashShape
import TshVerif.Lemmas.BashRun
import TshVerif.Model.Wf
namespace Tsh.Bash
open Tsh Tsh.Tr

theorem bind_ok {α β : Type} {x : BM α} {f : α → BM β} {s : St} {b : β} {s'' : St}
    (h : (x >>= f) s = .ok (b, s'')) : ∃ a s', x s = .ok (a, s') ∧ f a s' = .ok (b, s'') := EM.bind_ok h

theorem addLine_ok {l : Line} {s s' : St} {a : Unit} (h : addLine l s = .ok (a, s')) :
    s' = { s with code := l :: s.code } := by
  cases h; rfl

def Grows {α : Type} (m : BM α) : Prop := ∀ s a s', m s = .ok (a, s') → s.code.length < s'.code.length
def Mono {α : Type} (m : BM α) : Prop := ∀ s a s', m s = .ok (a, s') → s.code.length ≤ s'.code.length

theorem Grows.mono {α : Type} {m : BM α} (h : Grows m) : Mono m :=
  fun s a s' hr => Nat.le_of_lt (h s a s' hr)

theorem evalConds_quiet (elifs : List (Expr × List Stmt)) : Emits 0 (evalConds conv elifs) :=
  evalConds_closed quietClosed conv quiet_exprOps elifs

theorem defaultValue_quiet (vt : ValueType) : Emits 0 (defaultValue conv vt) :=
  defaultValue_closed quietClosed conv quiet_exprOps vt

theorem evalAppend_quiet (a : Option Expr) : Emits 0 (evalAppend conv a) :=
  evalAppend_closed quietClosed conv quiet_exprOps a

theorem storeValues_quiet (vars : List Var) (vals : List String) : Emits 0 (storeValues conv vars vals) :=
  storeValues_closed quietClosed conv quiet_exprOps vars vals

theorem assignedValues_quiet (count : Nat) (vals : List Expr) (n i : Nat) : Emits 0 (assignedValues conv count vals n i) :=
  assignedValues_closed quietClosed conv quiet_exprOps Rel.panic count vals n i

theorem assignedValues_ne {count : Nat} {vals : List Expr} {n i : Nat} {s s' : St} {values : List String}
    (h : assignedValues conv count vals (n + 1) i s = .ok (values, s')) : values ≠ [] := by
  cases vals with
  | nil => simp [assignedValues, Tr.panic] at h
  | cons e rest =>
    unfold assignedValues at h
    obtain ⟨_, _, _, h⟩ := EM.bind_ok h
    obtain ⟨_, _, _, h⟩ := EM.bind_ok h
    obtain ⟨_, _, _, h⟩ := EM.bind_ok h
    have := (EM.pure_ok h).1
    simp [this]

theorem storeValues_emits {vars : List Var} {values : List String} (hv : vars ≠ []) (hl : values ≠ []) :
    Emits 1 (storeValues conv vars values) := by
  cases vars with
  | nil => exact absurd rfl hv
  | cons x xs =>
    cases values with
    | nil => exact absurd rfl hl
    | cons v vs =>
      unfold storeValues
      exact (emits_varAssignment _ _ _).bindL fun _ => storeValues_quiet _ _

theorem assignValues_emits {vars : List Var} {vals : List Expr} (hv : vars ≠ []) : Emits 1 (assignValues conv vars vals) := by
  intro s a s' h
  unfold assignValues at h
  obtain ⟨values, s1, h1, h2⟩ := EM.bind_ok h
  have hne : values ≠ [] := by
    cases vars with
    | nil => exact absurd rfl hv
    | cons x xs => exact assignedValues_ne (n := xs.length) h1
  exact (assignedValues_quiet _ _ _ _ _ _ _ h1).trans (storeValues_emits hv hne _ _ _ h2)

theorem assignCallValues_emits {vars : List Var} {call : Expr} (hv : vars ≠ []) : Emits 1 (assignCallValues conv vars call) := by
  intro s a s' h
  unfold assignCallValues at h
  obtain ⟨values, s1, h1, h2⟩ := EM.bind_ok h
  split at h2
  · cases h2
  · next hlen =>
    have hne : values ≠ [] := by
      intro he; subst he
      cases vars with
      | nil => exact hv rfl
      | cons x xs => simp at hlen
    exact (evalExpr_quiet call true _ _ _ h1).trans (storeValues_emits hv hne _ _ _ h2)

theorem exprStmt_emits (e : Expr) (hc : e.isCallLike = true) (hw : ∀ p d a, e = .write p d a → False) :
    Emits 1 (evalExpr conv e false) := by
  cases e with
  | call name rets args =>
    unfold evalExpr
    refine (evalArgs_quiet args).bindR fun _ => (emits_funcCall _ _ _ _).bindL (k := 0) fun vs => ?_
    split
    · exact Rel.fail _
    · exact emits_pure _
  | app name args next =>
    unfold evalExpr
    exact Emits.bindR (evalAppChain_closed quietClosed conv quiet_exprOps _) fun _ => emits_appCallWith _ false
  | copy dst src =>
    unfold evalExpr
    exact (evalExpr_quiet src true).bindR fun _ => (emits_copyOp _ _ _).bindL fun _ => emits_pure _
  | input x =>
    cases x with
    | none => unfold evalExpr; exact (emits_inputOp _).bindL fun _ => emits_pure _
    | some x =>
      unfold evalExpr
      exact (evalExpr_quiet x false).bindR fun _ => (emits_inputOp _).bindL fun _ => emits_pure _
  | read path =>
    unfold evalExpr
    split
    · exact Rel.fail _
    · exact (evalExpr_quiet path true).bindR fun _ => (emits_readFile _).bindL fun _ => emits_pure _
  | write p d a => exact (hw p d a rfl).elim
  | _ => cases hc

/-- `new` is in script order, `St.code` newest first -/
structure Eff (k : K) (s s' : St) : Prop where
  fors : s'.fors = s.fors
  funcs : s'.funcs = s.funcs
  startCode : s'.startCode = s.startCode
  code : ∃ new, s'.code = new.reverse ++ s.code ∧ Shape k s.forCounter s'.forCounter new

theorem Eff.ofFrame {s s' : St} (h : Frame s s') : Eff .blk s s' := by
  obtain ⟨n, hc, hs⟩ := h.code
  refine ⟨h.fors, h.funcs, h.startCode, n.reverse, by simp [hc], ?_⟩
  rw [h.forCounter]
  exact Shape.ofSimples _ (fun l hl => hs l (by simpa using hl))

theorem Eff.trans {a b c : St} (h1 : Eff .blk a b) (h2 : Eff .blk b c) : Eff .blk a c := by
  obtain ⟨n1, hc1, hs1⟩ := h1.code
  obtain ⟨n2, hc2, hs2⟩ := h2.code
  exact ⟨h2.fors.trans h1.fors, h2.funcs.trans h1.funcs, h2.startCode.trans h1.startCode,
    n1 ++ n2, by simp [hc2, hc1], Shape.append hs1 hs2⟩

theorem Eff.refl (s : St) : Eff .blk s s := Eff.ofFrame (Frame.refl s)

theorem Eff.len {k : K} {s s' : St} (h : Eff k s s') : s.code.length ≤ s'.code.length := by
  obtain ⟨n, hc, _⟩ := h.code; simp [hc]

def NeBlk (s s' : St) : Prop := Eff .blk s s' ∧ s.code.length < s'.code.length

theorem NeBlk.append {a b c : St} (h1 : NeBlk a b) (h2 : Eff .blk b c) : NeBlk a c :=
  ⟨h1.1.trans h2, Nat.lt_of_lt_of_le h1.2 h2.len⟩

theorem Ran.eff {s s' : St} (h : Ran 1 s s') : NeBlk s s' := ⟨Eff.ofFrame h.frame, h.lines⟩

theorem Emits.eff {α : Type} {m : BM α} (h : Emits 1 m) {s s' : St} {a : α} (hr : m s = .ok (a, s')) : NeBlk s s' :=
  (h s a s' hr).eff

/-- exactly the lines `ls` (script order) were appended -/
structure Seg (ls : List Line) (s s' : St) : Prop where
  startCode : s'.startCode = s.startCode
  code : s'.code = ls.reverse ++ s.code

theorem Seg.cons (l : Line) (s : St) : Seg [l] s { s with code := l :: s.code } := ⟨rfl, rfl⟩

theorem Seg.trans {a b : List Line} {s0 s1 s2 : St} (h1 : Seg a s0 s1) (h2 : Seg b s1 s2) : Seg (a ++ b) s0 s2 :=
  ⟨h2.startCode.trans h1.startCode, by rw [h2.code, h1.code, List.reverse_append, List.append_assoc]⟩

theorem Seg.len {ls : List Line} {s s' : St} (h : Seg ls s s') : s'.code.length = s.code.length + ls.length := by
  rw [h.code, List.length_append, List.length_reverse, Nat.add_comm]

theorem Seg.ne {ls : List Line} {s s' : St} (h : Seg ls s s') (hg : s.code.length < s'.code.length) : ls ≠ [] := by
  rintro rfl; rw [h.len] at hg; exact Nat.lt_irrefl _ hg

theorem Seg.lt {ls : List Line} {s s' : St} (h : Seg ls s s') (hne : ls ≠ []) : s.code.length < s'.code.length := by
  rw [h.len]; exact Nat.lt_add_of_pos_right (List.length_pos_iff.mpr hne)

theorem Eff.seg {k : K} {s s' : St} (h : Eff k s s') : ∃ ls, Seg ls s s' ∧ Shape k s.forCounter s'.forCounter ls :=
  h.code.elim fun ls hl => ⟨ls, ⟨h.startCode, hl.1⟩, hl.2⟩

theorem NeBlk.seg {s s' : St} (h : NeBlk s s') : ∃ ls, Seg ls s s' ∧ Shape .blk s.forCounter s'.forCounter ls ∧ ls ≠ [] :=
  h.1.seg.elim fun ls hl => ⟨ls, hl.1, hl.2, hl.1.ne h.2⟩

theorem Eff.ifChain {s0 s2 s3 s4 s5 s6 s7 : St} {c : String}
    (e12 : Eff .blk s0 s2) (e3 : s3 = { s2 with code := .ifStart "if" c :: s2.code })
    (e4 : NeBlk s3 s4) (e5 : Eff .elifs s4 s5) (e6 : Eff .els s5 s6) (e7 : s7 = { s6 with code := .fi :: s6.code }) :
    NeBlk s0 s7 := by
  obtain ⟨n12, t12, hs12⟩ := e12.seg
  obtain ⟨n4, t4, hs4, ne4⟩ := e4.seg
  obtain ⟨n5, t5, hs5⟩ := e5.seg
  obtain ⟨n6, t6, hs6⟩ := e6.seg
  subst e3 e7
  have t := t12.trans ((Seg.cons _ s2).trans (t4.trans (t5.trans (t6.trans (Seg.cons .fi s6)))))
  exact ⟨⟨e6.fors.trans (e5.fors.trans (e4.1.fors.trans e12.fors)), e6.funcs.trans (e5.funcs.trans (e4.1.funcs.trans e12.funcs)),
    t.startCode, _, t.code, Shape.append hs12 (Shape.ifChain hs4 ne4 hs5 hs6 .nil)⟩,
    t.lt (List.append_ne_nil_of_right_ne_nil _ (List.cons_ne_nil _ _))⟩

theorem Eff.elifsCons {s0 s1 s2 s3 : St} {c : String}
    (e1 : s1 = { s0 with code := .ifStart "elif" c :: s0.code })
    (e2 : NeBlk s1 s2) (e3 : Eff .elifs s2 s3) : Eff .elifs s0 s3 := by
  obtain ⟨n2, t2, hs2, ne2⟩ := e2.seg
  obtain ⟨n3, t3, hs3⟩ := e3.seg
  subst e1
  have t := (Seg.cons _ s0).trans (t2.trans t3)
  exact ⟨e3.fors.trans e2.1.fors, e3.funcs.trans e2.1.funcs, t.startCode, .ifStart "elif" c :: (n2 ++ n3), t.code, Shape.elifsCons hs2 ne2 hs3⟩

theorem Eff.elsSome {s0 s1 s2 : St}
    (e1 : s1 = { s0 with code := .else_ :: s0.code })
    (e2 : NeBlk s1 s2) : Eff .els s0 s2 := by
  obtain ⟨n2, t2, hs2, ne2⟩ := e2.seg
  subst e1
  have t := (Seg.cons _ s0).trans t2
  exact ⟨e2.1.fors, e2.1.funcs, t.startCode, _, t.code, Shape.elsSome hs2 ne2⟩

theorem Eff.incrSome {s0 s1 s2 s3 : St} {n : Nat}
    (e1 : s1 = { s0 with code := .incrStart n :: s0.code })
    (e2 : NeBlk s1 s2) (e3 : s3 = { s2 with code := .incrFlagSet n :: .fi :: s2.code }) : Eff (.incr n) s0 s3 := by
  obtain ⟨n2, t2, hs2, ne2⟩ := e2.seg
  have t := (e1 ▸ Seg.cons _ s0 : Seg _ s0 s1).trans (t2.trans (e3 ▸ ⟨rfl, rfl⟩ : Seg [.fi, .incrFlagSet n] s2 s3))
  subst e1 e3
  exact ⟨e2.1.fors, e2.1.funcs, t.startCode, _, t.code, Shape.incrSome hs2 ne2⟩

/-- init (`s1`), flag line and loop head with the loop pushed (`s2`), increment (`s3`), condition (`s4`), exit test (`s5`),
    body (`s6`), `done` with the loop popped (`s7`) -/
theorem Eff.loop {s0 s1 s2 s3 s4 s5 s6 s7 : St} {c : String}
    (e1 : Eff .blk s0 s1)
    (e2 : s2 = { s1 with fors := s1.forCounter :: s1.fors, forCounter := s1.forCounter + 1,
                         code := .whileStart :: .forFlagInit s1.forCounter :: s1.code })
    (e3 : Eff (.incr s1.forCounter) s2 s3) (e4 : Eff .blk s3 s4)
    (e5 : s5 = { s4 with code := .forCond c :: s4.code })
    (e6 : NeBlk s5 s6) (e7 : s7 = { s6 with code := .done :: s6.code, fors := s6.fors.tail }) : NeBlk s0 s7 := by
  obtain ⟨n1, t1, hs1⟩ := e1.seg
  obtain ⟨n3, t3, hs3⟩ := e3.seg
  obtain ⟨n4, t4, hs4⟩ := e4.seg
  obtain ⟨n6, t6, hs6, ne6⟩ := e6.seg
  have t := t1.trans ((e2 ▸ ⟨rfl, rfl⟩ : Seg [.forFlagInit s1.forCounter, .whileStart] s1 s2).trans (t3.trans (t4.trans
    ((e5 ▸ Seg.cons _ s4 : Seg _ s4 s5).trans (t6.trans (e7 ▸ ⟨rfl, rfl⟩ : Seg [.done] s6 s7))))))
  subst e2 e5 e7
  refine ⟨⟨?_, e6.1.funcs.trans (e4.funcs.trans (e3.funcs.trans e1.funcs)), t.startCode, _, t.code,
    Shape.append hs1 (Shape.loop hs3 hs4 hs6 ne6 .nil)⟩, t.lt (List.append_ne_nil_of_right_ne_nil _ (List.cons_ne_nil _ _))⟩
  show s6.fors.tail = s0.fors
  rw [e6.1.fors, show s4.fors = _ from e4.fors, e3.fors]; exact e1.fors

/-- head line with the function pushed (`s1a`), `local` lines (`s1`), body (`s2`), `}` with the function popped (`s3`) -/
theorem Eff.func {s0 s1a s1 s2 s3 : St} {name : String}
    (e1 : s1a = { s0 with funcs := name :: s0.funcs, funcCounter := s0.funcCounter + 1, code := .funcStart name :: s0.code })
    (f1 : Frame s1a s1) (e2 : NeBlk s1 s2) (e3 : s3 = { s2 with code := .funcEnd :: s2.code, funcs := s2.funcs.tail }) :
    NeBlk s0 s3 := by
  obtain ⟨ps, hcp, hsp⟩ := f1.code
  obtain ⟨n2, t2, hs2, ne2⟩ := e2.seg
  have tp : Seg ps.reverse s1a s1 := ⟨f1.startCode, by rw [hcp, List.reverse_reverse]⟩
  have t := (e1 ▸ ⟨rfl, rfl⟩ : Seg [.funcStart name] s0 s1a).trans (tp.trans (t2.trans (e3 ▸ ⟨rfl, rfl⟩ : Seg [.funcEnd] s2 s3)))
  subst e1 e3
  refine ⟨⟨e2.1.fors.trans f1.fors, ?_, t.startCode, _, t.code, ?_⟩, t.lt (List.cons_ne_nil _ _)⟩
  · show s2.funcs.tail = s0.funcs
    rw [e2.1.funcs, f1.funcs]; rfl
  · have hfc : s1.forCounter = s0.forCounter := f1.forCounter
    rw [hfc] at hs2
    exact Shape.func (fun l hl => hsp l (List.mem_reverse.mp hl)) hs2 ne2 .nil

theorem forStart_ok {s s' : St} {a : Unit} (h : conv.forStart s = .ok (a, s')) :
    s' = { s with fors := s.forCounter :: s.fors, forCounter := s.forCounter + 1,
                  code := .whileStart :: .forFlagInit s.forCounter :: s.code } := by
  cases h; rfl

theorem forIncrementStart_ok {s s' : St} {a : Unit} {n : Nat} {rest : List Nat} (hf : s.fors = n :: rest)
    (h : conv.forIncrementStart s = .ok (a, s')) : s' = { s with code := .incrStart n :: s.code } := by
  rw [forIncrementStart_run s n rest hf] at h
  cases h; rfl

theorem forIncrementEnd_ok {s s' : St} {a : Unit} {n : Nat} {rest : List Nat} (hf : s.fors = n :: rest)
    (h : conv.forIncrementEnd s = .ok (a, s')) : s' = { s with code := .incrFlagSet n :: .fi :: s.code } := by
  rw [forIncrementEnd_run s n rest hf] at h
  cases h; rfl

theorem forEnd_ok {s s' : St} {a : Unit} (h : conv.forEnd s = .ok (a, s')) :
    s' = { s with code := .done :: s.code, fors := s.fors.tail } := by
  cases h; dsimp only; rw [List.drop_one]

theorem funcEnd_ok {s s' : St} {a : Unit} (h : conv.funcEnd s = .ok (a, s')) :
    s' = { s with code := .funcEnd :: s.code, funcs := s.funcs.tail } := by
  cases h; dsimp only; rw [List.drop_one]

theorem funcStart_ok {s s' : St} {a : Unit} {name : String} {ps : List String} (h : conv.funcStart name ps s = .ok (a, s')) :
    Frame { s with funcs := name :: s.funcs, funcCounter := s.funcCounter + 1, code := .funcStart name :: s.code } s' :=
  (emits_localParams ps 0 _ _ _ h).frame

theorem ne_nil_of_wf {vars : List Var} (h : (!vars.isEmpty) = true) : vars ≠ [] := by
  rintro rfl; cases h

theorem stmtWalk_eff :
    (∀ st, st.wf = true → ∀ s a s', evalStmt conv st s = .ok (a, s') → NeBlk s s') ∧
    (∀ incr, wfOpt incr = true → ∀ s a s' n rest, s.fors = n :: rest → evalIncr conv incr s = .ok (a, s') → Eff (.incr n) s s') ∧
    (∀ init, wfOpt init = true → ∀ s a s', evalInit conv init s = .ok (a, s') → Eff .blk s s') ∧
    (∀ els, wfStmts els = true → ∀ s a s', evalElse conv els s = .ok (a, s') → Eff .els s s') ∧
    (∀ body, wfStmts body = true → ∀ s a s', evalStmts conv body s = .ok (a, s') → Eff .blk s s') ∧
    (∀ elifs conds, wfElifs elifs = true → ∀ s a s', evalElifs conv elifs conds s = .ok (a, s') → Eff .elifs s s') ∧
    (∀ body, wfStmts body = true → ∀ s a s', evalBlock conv body s = .ok (a, s') → NeBlk s s') := by
  apply evalStmt.mutual_induct
  · intro vars vals hw s a s' h; rw [Stmt.wf] at hw; unfold evalStmt at h
    exact (assignValues_emits (ne_nil_of_wf hw)).eff h
  · intro vars vals hw s a s' h; rw [Stmt.wf] at hw; unfold evalStmt at h
    exact (assignValues_emits (ne_nil_of_wf hw)).eff h
  · intro vars call hw s a s' h; rw [Stmt.wf] at hw; unfold evalStmt at h
    exact (assignCallValues_emits (ne_nil_of_wf hw)).eff h
  · intro vars call hw s a s' h; rw [Stmt.wf] at hw; unfold evalStmt at h
    exact (assignCallValues_emits (ne_nil_of_wf hw)).eff h
  · intro v index value _ s a s' h; unfold evalStmt at h
    exact ((evalExpr_quiet _ _).bindR fun _ => (evalExpr_quiet _ _).bindR fun _ => (defaultValue_quiet _).bindR fun _ =>
      emits_sliceAssignment _ _ _ _ _).eff h
  · intro name pub rets params body ihb hw s a s' h; rw [Stmt.wf] at hw; unfold evalStmt at h
    obtain ⟨_, s1, h1, h⟩ := EM.bind_ok h
    obtain ⟨_, s2, h2, h3⟩ := EM.bind_ok h
    exact Eff.func rfl (funcStart_ok h1) (ihb hw _ _ _ h2) (funcEnd_ok h3)
  · intro vals _ s a s' h; unfold evalStmt at h
    exact ((evalArgs_quiet _).bindR fun _ => emits_ret _).eff h
  · intro cond body elifs els ihb ihe ihl hw s a s' h
    simp only [Stmt.wf, Bool.and_eq_true] at hw
    unfold evalStmt at h
    obtain ⟨c, s1, h1, h⟩ := EM.bind_ok h
    obtain ⟨ecs, s2, h2, h⟩ := EM.bind_ok h
    obtain ⟨_, s3, h3, h⟩ := EM.bind_ok h
    obtain ⟨_, s4, h4, h⟩ := EM.bind_ok h
    obtain ⟨_, s5, h5, h⟩ := EM.bind_ok h
    obtain ⟨_, s6, h6, h7⟩ := EM.bind_ok h
    exact Eff.ifChain (Eff.ofFrame ((evalExpr_quiet cond true _ _ _ h1).trans (evalConds_quiet elifs _ _ _ h2)).frame)
      (addLine_ok (l := .ifStart "if" (firstValue c)) h3) (ihb hw.1.1 _ _ _ h4) (ihe ecs hw.1.2 _ _ _ h5) (ihl hw.2 _ _ _ h6) (addLine_ok (l := .fi) h7)
  · intro init cond incr body ihi ihn ihb hw s a s' h
    simp only [Stmt.wf, Bool.and_eq_true] at hw
    unfold evalStmt at h
    obtain ⟨_, s1, h1, h⟩ := EM.bind_ok h
    obtain ⟨_, s2, h2, h⟩ := EM.bind_ok h
    obtain ⟨_, s3, h3, h⟩ := EM.bind_ok h
    obtain ⟨c, s4, h4, h⟩ := EM.bind_ok h
    obtain ⟨_, s5, h5, h⟩ := EM.bind_ok h
    obtain ⟨_, s6, h6, h7⟩ := EM.bind_ok h
    have e2 := forStart_ok h2
    exact Eff.loop (ihi hw.1.1 _ _ _ h1) e2 (ihn hw.1.2 s2 _ s3 s1.forCounter s1.fors (by rw [e2]) h3)
      (Eff.ofFrame (evalExpr_quiet cond true _ _ _ h4).frame) (addLine_ok (l := .forCond (firstValue c)) h5) (ihb hw.2 _ _ _ h6) (forEnd_ok h7)
  · intro _ s a s' h; unfold evalStmt at h; exact (emits_addLine .brk rfl rfl).eff h
  · intro _ s a s' h; unfold evalStmt at h; exact (emits_addLine .cont rfl rfl).eff h
  · intro es _ s a s' h; unfold evalStmt at h
    exact ((evalAll_quiet es).bindR fun _ => emits_addLine (.echo _) rfl rfl).eff h
  · intro e _ s a s' h; unfold evalStmt at h
    exact ((evalExpr_quiet e true).bindR fun _ => emits_panicOp _).eff h
  · intro path data append hp _ s a s' h; unfold evalStmt at h; rw [if_pos hp] at h; cases h
  · intro path data append hp _ s a s' h; unfold evalStmt at h; rw [if_neg hp] at h
    obtain ⟨p, s1, h1, h⟩ := EM.bind_ok h
    split at h
    · cases h
    · exact ((evalExpr_quiet path true _ _ _ h1).trans (((evalExpr_quiet data true).bindR fun _ =>
        (evalAppend_quiet append).bindR fun _ => emits_addLine (.writeFile _ _ _) rfl rfl) _ _ _ h)).eff
  · intro e he hw s a s' h; rw [Stmt.wf] at hw; rw [evalStmt.eq_15 conv e he] at h
    exact ((exprStmt_emits e hw he).bindL fun _ => emits_pure _).eff h
  · intro _ s a s' h; unfold evalElse at h; cases h; exact ⟨rfl, rfl, rfl, [], rfl, Shape.elsNone⟩
  · intro st rest ihs ihr hw s a s' h; unfold evalElse at h
    simp only [wfStmts, Bool.and_eq_true] at hw
    obtain ⟨_, s1, h1, h⟩ := EM.bind_ok h
    obtain ⟨_, s2, h2, h⟩ := EM.bind_ok h
    obtain ⟨_, s3, h3, h4⟩ := EM.bind_ok h
    cases h4
    exact Eff.elsSome (addLine_ok (l := .else_) h1) ((ihs hw.1 _ _ _ h2).append (ihr hw.2 _ _ _ h3))
  · intro _ s a s' h; unfold evalStmts at h; cases h; exact Eff.refl _
  · intro st rest ihs ihr hw s a s' h; unfold evalStmts at h
    simp only [wfStmts, Bool.and_eq_true] at hw
    obtain ⟨_, s1, h1, h2⟩ := EM.bind_ok h
    exact (ihs hw.1 _ _ _ h1).1.trans (ihr hw.2 _ _ _ h2)
  · intro _ s a s' h; unfold evalBlock at h; exact (emits_addLine .nop rfl rfl).eff h
  · intro st rest ihs ihr hw s a s' h; unfold evalBlock at h
    simp only [wfStmts, Bool.and_eq_true] at hw
    obtain ⟨_, s1, h1, h2⟩ := EM.bind_ok h
    exact (ihs hw.1 _ _ _ h1).append (ihr hw.2 _ _ _ h2)
  · intro c body rest cd cs ihb ihr hw s a s' h; unfold evalElifs at h
    simp only [wfElifs, Bool.and_eq_true] at hw
    obtain ⟨_, s1, h1, h⟩ := EM.bind_ok h
    obtain ⟨_, s2, h2, h⟩ := EM.bind_ok h
    obtain ⟨_, s3, h3, h4⟩ := EM.bind_ok h
    cases h3
    exact Eff.elifsCons (addLine_ok (l := .ifStart "elif" cd) h1) (ihb hw.1 _ _ _ h2) (ihr hw.2 _ _ _ h4)
  · intro elifs conds hne _ s a s' h; rw [evalElifs.eq_2 conv elifs conds hne] at h; cases h
    exact ⟨rfl, rfl, rfl, [], rfl, Shape.elifsNil⟩
  · intro i ih hw s a s' n rest hf h; unfold evalIncr at h
    obtain ⟨_, s1, h1, h⟩ := EM.bind_ok h
    obtain ⟨_, s2, h2, h3⟩ := EM.bind_ok h
    have e1 := forIncrementStart_ok hf h1
    have e2 := ih hw _ _ _ h2
    exact Eff.incrSome e1 e2 (forIncrementEnd_ok (by rw [e2.1.fors, e1]; exact hf) h3)
  · intro _ s a s' n rest _ h; unfold evalIncr at h; cases h; exact ⟨rfl, rfl, rfl, [], rfl, Shape.incrNone⟩
  · intro i ih hw s a s' h; unfold evalInit at h; exact (ih hw _ _ _ h).1
  · intro _ s a s' h; unfold evalInit at h; cases h; exact Eff.refl _

theorem evalStmt_eff (st : Stmt) (hw : st.wf = true) :
    ∀ s a s', evalStmt conv st s = .ok (a, s') → Eff .blk s s' ∧ s.code.length < s'.code.length :=
  stmtWalk_eff.1 st hw

theorem evalInit_eff (init : Option Stmt) (hw : wfOpt init = true) :
    ∀ s a s', evalInit conv init s = .ok (a, s') → Eff .blk s s' :=
  stmtWalk_eff.2.2.1 init hw

theorem evalIncr_eff (incr : Option Stmt) (hw : wfOpt incr = true) :
    ∀ s a s' n rest, s.fors = n :: rest → evalIncr conv incr s = .ok (a, s') → Eff (.incr n) s s' :=
  stmtWalk_eff.2.1 incr hw

theorem evalElse_eff (els : List Stmt) (hw : wfStmts els = true) :
    ∀ s a s', evalElse conv els s = .ok (a, s') → Eff .els s s' :=
  stmtWalk_eff.2.2.2.1 els hw

theorem evalBlock_eff (body : List Stmt) (hw : wfStmts body = true) :
    ∀ s a s', evalBlock conv body s = .ok (a, s') → Eff .blk s s' ∧ s.code.length < s'.code.length :=
  stmtWalk_eff.2.2.2.2.2.2 body hw

theorem evalStmts_eff (body : List Stmt) (hw : wfStmts body = true) :
    ∀ s a s', evalStmts conv body s = .ok (a, s') → Eff .blk s s' :=
  stmtWalk_eff.2.2.2.2.1 body hw

theorem evalElifs_eff (elifs : List (Expr × List Stmt)) (conds : List String) (hw : wfElifs elifs = true) :
    ∀ s a s', evalElifs conv elifs conds s = .ok (a, s') → Eff .elifs s s' :=
  stmtWalk_eff.2.2.2.2.2.1 elifs conds hw

theorem compile_ok {p : Program} {ls : List Line} (h : compile p = .ok ls) :
    ∃ s, evalStmts conv p { startCode := [.shebang] } = .ok ((), s) ∧ ls = dumpLines s := by
  unfold compile at h
  split at h
  · next u s hrun =>
    cases h
    obtain ⟨_, s1, h1, hrun⟩ := EM.bind_ok hrun
    obtain ⟨_, s2, h2, h3⟩ := EM.bind_ok hrun
    cases h1; cases h3
    exact ⟨s, h2, rfl⟩
  · cases h
  · cases h

theorem compile_shape (p : Program) (hw : wfStmts p = true) (ls : List Line) (h : compile p = .ok ls) :
    ∃ (st : St) (body : List Line) (n : Nat), ls = .shebang :: (helperLines st ++ body) ∧ Shape .blk 0 n body := by
  obtain ⟨s, h2, rfl⟩ := compile_ok h
  have e2 := evalStmts_eff p hw _ _ _ h2
  obtain ⟨body, hc, hs⟩ := e2.code
  refine ⟨s, body, s.forCounter, ?_, hs⟩
  rw [dumpLines, e2.startCode, hc, List.append_nil, List.reverse_reverse]; rfl

end Tsh.Bash
