/-
  A call.  What the converter emits for it (`funcCall_specF`: the call line, then copies of the return registers into helpers of
  the caller); what the call line does (`call_exec`: the body of the callee runs - what is known about it comes from the table -,
  `local`s are undone; a callee touches no helper, temporary or loop flag of the caller); `call_line`: that, for a source run.
-/
import TshVerif.Lemmas.Sem2Comb
import TshVerif.Lemmas.BashRun
namespace Tsh.Sem2
open Tsh Tsh.Tr Tsh.Bash Tsh.Sem Tsh.Sem2.Src
open Tsh.Sem.Src (Val Env)

theorem expandList_holds {ctx : Ctx} {c : SCfg} {m : Cfg} (ha : AgreeF ctx c m) : ∀ {ts : List String} {os : List Opd} {n : Nat} {vals : List Val},
    HoldsAllF ctx ts os n m.ρ → resolveAll c os = some vals → expandList m.ρ ts = some (vals.map Val.render)
  | [], [], _, vals, _, hr => by
    cases hr
    rfl
  | t :: ts, o :: os, n, vals, hh, hr => by
    obtain ⟨v, vs, hv, hvs, rfl⟩ := resolveAll_cons hr
    simp only [expandList, hh.1.expand ha hv, expandList_holds ha hh.2 hvs, List.map_cons]
  | [], _ :: _, _, _, hh, _ => hh.elim
  | _ :: _, [], _, _, hh, _ => hh.elim

theorem helperAt_ctx (s : St) : C02.helperAt s = (ctxOf s).hn := funext (hn_eq s)

theorem copyLines_ok (ctx : Ctx) (hi : Nat) (ds : List String) : ∀ (n i k : Nat), LinesOK ctx hi ds (C02.copyLines ctx.hn n i k)
  | 0, _, _ => LinesOK.nil _ _ _
  | n + 1, i, k => LinesOK.cons (sline_helper _ _ _ _ k rfl rfl) (copyLines_ok ctx hi ds n (i + 1) (k + 1))

theorem funcCall_specF (name : String) (as : List String) (rets : List ValueType) (s : St) :
    funcCall name as rets true s = .ok (C02.copyVals (ctxOf s).hn rets.length s.varCounter,
      adv s ((C02.copyLines (ctxOf s).hn rets.length 0 s.varCounter).reverse ++ [Line.callFn name as]) rets.length) := by
  rw [C02.funcCall_run, helperAt_ctx]
  simp only [adv, List.append_assoc, List.singleton_append]

theorem copy_sem (ctx : Ctx) (T : List FEntry) (B lo : Nat) : ∀ (vs : List Val) (i k : Nat) (c : SCfg) (m : Cfg), lo ≤ k →
    Inv ctx T c m → ValsRv i vs m.ρ →
    ∃ m', ExecCmds ((C02.copyLines ctx.hn vs.length i k).map Cmd.simple) m .normal m' ∧ Inv ctx T c m' ∧ Ctl m m' ∧ KeepE ctx B lo m m' ∧
      (∀ j, j < k → m'.ρ (ctx.hn j) = m.ρ (ctx.hn j)) ∧
      HoldsAllF ctx (C02.copyVals ctx.hn vs.length k) (vs.map Opd.lit) (k + vs.length) m'.ρ
  | [], i, k, c, m, _, hi, _ => ⟨m, ExecCmds.nil, hi, Ctl.refl m, KeepE.refl _ _ _ m, fun _ _ => rfl, trivial⟩
  | v :: vs, i, k, c, m, hk, hi, hv => by
    have hc : Complete m.ρ ("${" ++ rvName i ++ "}").toList v.render.toList := by
      rw [← hv.1]; exact complete_var m.ρ _ (rvName_valid i)
    have hst := step2_assign m (ctx.hn k) hc.toExpand
    have hv' : ValsRv (i + 1) vs (m.ρ.set (ctx.hn k) v.render) :=
      ValsRv.congr (fun j => Sem.set_other _ _ _ _ (fun e => ctx.hn_ne_rv k j e.symm)) hv.2
    obtain ⟨m', ex, hi', hc', hk', hlow, hh⟩ := copy_sem ctx T B lo vs (i + 1) (k + 1) c { m with ρ := m.ρ.set (ctx.hn k) v.render }
      (by omega) (hi.set_hn _ _) hv'
    refine ⟨m', ?_, hi', hc', ?_, ?_, ?_⟩
    · simp only [List.length_cons, C02.copyLines, List.map_cons]
      exact ExecCmds.cons (ExecCmd.simple rfl hst) ex
    · exact ((KeepE.refl _ _ _ m).set_helper hk _).trans hk' (Nat.le_refl _)
    · intro j hj
      rw [hlow j (by omega)]
      exact Sem.set_other _ _ _ _ (fun e => by have := ctx.hn_inj e; omega)
    · simp only [List.length_cons, C02.copyVals, List.map_cons]
      have e : k + (vs.length + 1) = k + 1 + vs.length := by omega
      rw [e]
      refine ⟨?_, hh⟩
      have h0 := holdsF_helper ctx k v (m.ρ.set (ctx.hn k) v.render) (Sem.set_same _ _ _)
      exact h0.mono (by omega) (fun j hj => hlow j hj)

theorem owned_not_touched {j b : Nat} {x : String} (hx : x.toList.head? = some '_') (hrv : ∀ i, rvName i ≠ x)
    (hfl : ∀ n, n < b → flagName n ≠ x) (hsp : isSpecial x = true → False) : ¬ Touched j b x := by
  rintro (⟨i, a, _, rfl⟩ | ⟨i, rfl⟩ | hg | ⟨n, hn, rfl⟩ | h)
  · exact prefixed_ne_owned i a hx rfl
  · exact hrv i rfl
  · exact good_ne_owned (good2_good hg) hx rfl
  · exact hfl n hn rfl
  · exact hsp h

section
variable {ctx : Ctx} {T : List FEntry} {B : Nat} (hctx : CtxOK ctx T B) {e : FEntry} (he : e ∈ T)
include hctx he

theorem local_not_touched (hin : ctx.inFn = true) (x : String) : ¬ Touched e.j e.b (fnPrefix ctx.k ++ x) := by
  intro ht
  rcases ht with ⟨i, a, hi, hx⟩ | ⟨i, hx⟩ | hg | ⟨n', _, hx⟩ | hsp
  rotate_right
  · exact special_ne_prefixed hsp _ _ rfl
  · have := (fnPrefix_inj hx).1
    have := hctx.above hin e he
    omega
  · exact prefixed_ne_rv _ _ _ hx
  · simp [goodName2, mangledLike_prefix] at hg
  · exact prefixed_ne_flag _ _ _ hx

theorem flag_not_touched (n : Nat) (hn : B ≤ n) : ¬ Touched e.j e.b (flagName n) :=
  owned_not_touched (flagName_head n) (fun i => rv_ne_flag i n)
    (fun n' hn' hx => by have := flagName_inj hx; have := hctx.flags e he; omega) (fun h => special_ne_flag h n rfl)

theorem hn_not_touched (j : Nat) : ¬ Touched e.j e.b (ctx.hn j) := by
  unfold Ctx.hn Ctx.mg
  cases hin : ctx.inFn
  · exact owned_not_touched (helperName_head j) (fun i => rv_ne_helper i j) (fun n _ => flag_ne_helper n j)
      (fun h => special_ne_helper h j rfl)
  · exact local_not_touched hctx he hin _

theorem tn_not_touched (j : Nat) : ¬ Touched e.j e.b (ctx.tn j) := by
  unfold Ctx.tn Ctx.mg
  cases hin : ctx.inFn
  · exact owned_not_touched (tmpName_head j) (fun i => rv_ne_tmp i j) (fun n _ => flag_ne_tmp n j)
      (fun h => special_ne_tmp h j rfl)
  · exact local_not_touched hctx he hin _

end

theorem call_exec {ctx : Ctx} {T : List FEntry} {B : Nat} (hT : TableOK T) (hctx : CtxOK ctx T B) {e : FEntry} (he : e ∈ T)
    {c1 : SCfg} {m1 : Cfg} (hi : Inv ctx T c1 m1) {ts : List String} {os : List Opd} {vals : List Val} {n : Nat}
    (hh : HoldsAllF ctx ts os n m1.ρ) (hr : resolveAll c1 os = some vals) (hlen : vals.length = e.fd.params.length)
    {fuel : Nat} {o : SOut} {c2 : SCfg}
    (hb : execSs fuel e.fd.body { c1 with lenv := bindParams (fun _ => none) e.fd.params vals, inFn := true } = some (o, c2)) :
    (∀ vs, (o = .ret vs ∨ (o = .normal ∧ vs = [])) →
      ∃ m3, ExecCmd (.simple (.callFn e.fd.name ts)) m1 .normal m3 ∧ Inv ctx T { c2 with lenv := c1.lenv, inFn := c1.inFn } m3 ∧
        Ctl m1 m3 ∧ (∀ lo, KeepE ctx B lo m1 m3) ∧ ValsRv 0 vs m3.ρ) ∧
    (∀ k, o = .exit k → ∃ m3, ExecCmd (.simple (.callFn e.fd.name ts)) m1 (.exit k) m3 ∧ c2.out = m3.out) := by
  obtain ⟨Tr, hsuf, hnd, hcf, hmf⟩ := hi.tables
  obtain ⟨T', hsT, hbs⟩ := hT.entry he
  have hlk : lookupFun m1.funs e.fd.name = some e.body := by rw [hmf]; exact (lookup_entry Tr e hnd (hsuf.subset he)).2
  have hex : expandList m1.ρ ts = some (vals.map Val.render) := expandList_holds hi.agree hh hr
  obtain ⟨m2, o', ex, hor, hout, hrest'⟩ :=
    hbs Tr c1 m1 vals fuel o c2 (hsT.trans hsuf) hnd hcf hmf hi.agree.toG hlen hb
  constructor
  · intro vs hvs
    obtain ⟨hag, hcf2, hmf2, hrv, hfr, hsv⟩ := hrest' (fun k e' => by rcases hvs with h | ⟨h, _⟩ <;> (rw [h] at e'; cases e'))
    -- what `restore` leaves alone
    have hrest : ∀ x, (∀ a, x ≠ fnPrefix e.j ++ a) → restore m2.saved m2.ρ x = m2.ρ x := by
      intro x hx
      apply restore_other
      intro p hp e'
      obtain ⟨a, ha⟩ := hsv p hp
      exact hx a (by rw [← e', ha])
    -- and what the whole call leaves alone
    have hkeep : ∀ x, ¬ Touched e.j e.b x → restore m2.saved m2.ρ x = m1.ρ x := fun x hx =>
      (hrest x fun a e' => hx (.inl ⟨e.j, a, Nat.le_refl _, e'⟩)).trans (hfr x hx)
    have ho' : o' = .normal ∨ o' = .ret := by
      rcases hvs with rfl | ⟨rfl, _⟩
      · cases o' <;> simp [OutRel] at hor ⊢
      · cases o' <;> simp [OutRel] at hor ⊢
    let m3 : Cfg := { m2 with ρ := restore m2.saved m2.ρ, args := m1.args, saved := m1.saved }
    have hcr : callResult m1 o' m2 = some (.normal, m3) := by
      rcases ho' with rfl | rfl <;> rfl
    refine ⟨m3, ExecCmd.call hlk hex ex hcr, ?_, ⟨rfl, rfl, hmf2⟩, ?_, ?_⟩
    · refine ⟨⟨hi.agree.inFn, hag.out, ?_, ?_, ⟨?_, hag.hp.heap, hag.hp.fresh⟩⟩, ⟨Tr, hsuf, hnd, by rw [← hcf]; exact hcf2, by rw [← hmf]; exact hmf2⟩⟩
      rotate_left 2
      · show restore m2.saved m2.ρ "_dvc" = _
        rw [hrest _ (fun a => special_ne_prefixed (x := "_dvc") (by decide) _ a)]; exact hag.hp.dvc
      · intro x v hx
        obtain ⟨hg, hv⟩ := hag.glob x v hx
        exact ⟨hg, by show restore m2.saved m2.ρ x = _; rw [hrest x (fun a => good2_ne_prefixed x _ a hg)]; exact hv⟩
      · intro hin x v hx
        obtain ⟨hg, hv⟩ := hi.agree.loc hin x v hx
        exact ⟨hg, (hkeep _ (local_not_touched hctx he hin x)).trans hv⟩
    · exact fun lo => ⟨fun j _ => hkeep _ (hn_not_touched hctx he j), fun j => hkeep _ (tn_not_touched hctx he j),
        fun n hn => hkeep _ (flag_not_touched hctx he n hn)⟩
    · rcases hvs with rfl | ⟨_, rfl⟩
      · exact ValsRv.congr (fun j => hrest _ (fun a e' => prefixed_ne_rv _ _ _ e'.symm)) (hrv vs rfl)
      · trivial
  · intro k hk
    subst hk
    have ho' : o' = .exit k := by cases o' <;> simp [OutRel] at hor ⊢; exact hor.symm
    subst ho'
    exact ⟨m2, ExecCmd.call hlk hex ex rfl, hout⟩

theorem call_line {ctx : Ctx} {T : List FEntry} {B : Nat} (hT : TableOK T) (hctx : CtxOK ctx T B) {e : FEntry} (he : e ∈ T) {rets : List ValueType} {args : List Expr}
    {as : List String} {n fuel : Nat} {c : SCfg} {res : R (List Opd)} (hs : evalE fuel (.call e.fd.name rets args) c = some res) :
    Via (fun f c => Src.evalArgs f args c) c R.exit res fun os c1 => ∀ m1, Inv ctx T c1 m1 → HoldsAllF ctx as os n m1.ρ →
      (∃ vs c2 m3, res = .ok (vs.map Opd.lit) c2 ∧ vs.length = rets.length ∧ ExecCmd (.simple (.callFn e.fd.name as)) m1 .normal m3 ∧
        Inv ctx T c2 m3 ∧ Ctl m1 m3 ∧ (∀ lo, KeepE ctx B lo m1 m3) ∧ ValsRv 0 vs m3.ρ) ∨
      ∃ k c2 m3, res = .exit k c2 ∧ ExecCmd (.simple (.callFn e.fd.name as)) m1 (.exit k) m3 ∧ c2.out = m3.out := by
  obtain ⟨f, rfl⟩ := evalE_pos hs
  refine (bindL_via (evalE_call ▸ hs)).imp fun os c1 hk m1 hi1 hh1 => ?_
  split at hk
  case h_2 => cases hk
  rename_i vals fd hrv hlk
  split at hk
  case isFalse => cases hk
  rename_i hlen
  -- the function found is the one of the table
  obtain ⟨Tr, hsuf, hnd, hcf, hmf⟩ := hi1.tables
  have hfd : fd = e.fd := by
    have := (lookup_entry Tr e hnd (hsuf.subset he)).1
    rw [← hcf, hlk] at this
    exact Option.some.inj this
  subst hfd
  obtain ⟨o, c2, hb, hres⟩ := callRet_some hk
  obtain ⟨hok, hexit⟩ := call_exec hT hctx he hi1 hh1 hrv (eq_of_beq (Bool.and_eq_true _ _ ▸ hlen).1) hb
  rcases hres with ⟨vs, ho, hvl, rfl⟩ | ⟨k, rfl, rfl⟩
  · obtain ⟨m3, h⟩ := hok vs ho
    exact .inl ⟨vs, _, m3, rfl, hvl, h⟩
  · obtain ⟨m3, h⟩ := hexit k rfl
    exact .inr ⟨k, c2, m3, rfl, h⟩

end Tsh.Sem2
