/-
  Slices and string operations: the storage of slices on both sides stays in step; what the converter emits for each operation;
  where the operation part of the source clause (`lenT`, `indexT`, .. of `Sem2SrcEqs`) yields a result, those lines leave it.
-/
import TshVerif.Lemmas.Sem2Call
import TshVerif.Lemmas.BashRun
namespace Tsh.Sem2
open Tsh Tsh.Tr Tsh.Bash Tsh.Sem Tsh.Sem2.Src
open Tsh.Sem.Src (Val Env sliceName)

theorem hset_same (h : Nat → List Val) (id : Nat) (a : List Val) : hset h id a id = a := if_pos rfl
theorem hset_other (h : Nat → List Val) (id j : Nat) (a : List Val) (e : j ≠ id) : hset h id a j = h j := if_neg e

theorem hset_self (h : Nat → List Val) (id : Nat) : hset h id (h id) = h := by
  funext j; unfold hset; split
  · rename_i e; rw [e]
  · rfl

theorem hset_hset (h : Nat → List Val) (id : Nat) (a b : List Val) : hset (hset h id a) id b = hset h id b := by
  funext j; simp only [hset]; split <;> rfl

theorem aset_same (a : String → List String) (x : String) (v : List String) : aset a x v x = v := by simp [aset]
theorem aset_other (a : String → List String) (x y : String) (v : List String) (h : y ≠ x) : aset a x v y = a y := by simp [aset, h]

section
variable {ctx : Ctx} {T : List FEntry} {c : SCfg} {m : Cfg}

theorem HeapOK.write (h : HeapOK c m) (id : Nat) (hid : id ≤ c.next) (l : List Val) :
    HeapOK { c with heap := hset c.heap id l } { m with arr := aset m.arr (sliceName id) (l.map Val.render) } := by
  refine ⟨h.dvc, fun j => ?_, fun j hj => ?_⟩
  · dsimp only
    by_cases e : j = id
    · rw [e, aset_same, hset_same]
    · rw [aset_other _ _ _ _ (fun e' => e (sliceName_inj e')), hset_other _ _ _ _ e]
      exact h.heap j
  · dsimp only at hj ⊢
    rw [hset_other _ _ _ _ (by omega)]
    exact h.fresh j hj

theorem Inv.heap_write (h : Inv ctx T c m) (id : Nat) (hid : id ≤ c.next) (l : List Val) :
    Inv ctx T { c with heap := hset c.heap id l } { m with arr := aset m.arr (sliceName id) (l.map Val.render) } :=
  ⟨⟨h.agree.inFn, h.agree.out, h.agree.glob, h.agree.loc, h.agree.hp.write id hid l⟩, h.tables⟩

theorem Inv.bump (h : Inv ctx T c m) :
    Inv ctx T { c with next := c.next + 1 } { m with ρ := m.ρ.set "_dvc" (toString (c.next + 1)) } := by
  have ha := h.agree
  refine ⟨⟨ha.inFn, ha.out, fun x v hx => ?_, fun hin x v hx => ?_, ?_, ha.hp.heap, fun j hj => ha.hp.fresh j (Nat.lt_of_succ_lt hj)⟩, h.tables⟩
  · obtain ⟨hg, hv⟩ := ha.glob x v hx
    exact ⟨hg, (m.rho_set_other _ _ _ (fun e => good_ne_special (good2_good hg) (by rw [e]; decide))).trans hv⟩
  · obtain ⟨hg, hv⟩ := ha.loc hin x v hx
    exact ⟨hg, (m.rho_set_other _ _ _ (fun e => special_ne_prefixed (x := "_dvc") (by decide) _ _ e.symm)).trans hv⟩
  · exact (m.rho_set_same _ _).trans (if_neg (Nat.succ_ne_zero _)).symm

end

theorem KeepE.set_special {ctx : Ctx} {B lo : Nat} {m m1 : Cfg} (h : KeepE ctx B lo m m1) {y : String} (hy : isSpecial y = true) (w : String) :
    KeepE ctx B lo m { m1 with ρ := m1.ρ.set y w } :=
  h.set y w (fun i _ => ctx.hn_ne_special i hy) (fun i => ctx.tn_ne_special i hy) (fun n _ e => special_ne_flag hy n e.symm)

theorem KeepE.set_arr {ctx : Ctx} {B lo : Nat} {m m1 : Cfg} (h : KeepE ctx B lo m m1) (a : String → List String) :
    KeepE ctx B lo m { m1 with arr := a } :=
  ⟨h.helpers, h.tmps, h.flags⟩

theorem sliceEvaluation_specF (name index : String) (s : St) :
    sliceEvaluation name index s = .ok ("${" ++ (ctxOf s).hn s.varCounter ++ "}",
      adv s [.sliceLoad ((ctxOf s).hn s.varCounter) name index] 1) :=
  helperOp_specF (fun h => .sliceLoad h name index) s

theorem sliceLen_specF (name : String) (s : St) :
    sliceLen name s = .ok ("${" ++ (ctxOf s).hn s.varCounter ++ "}",
      adv s [.assignSliceLen ((ctxOf s).hn s.varCounter) name] 1) :=
  helperOp_specF (fun h => .assignSliceLen h name) s

theorem stringLen_specF (v : String) (s : St) :
    stringLen v s = .ok ("${" ++ (ctxOf s).hn s.varCounter ++ "}",
      adv s [.assignStrLen ((ctxOf s).hn s.varCounter) ((ctxOf s).hn s.varCounter), .assign ((ctxOf s).hn s.varCounter) v] 1) := by
  simp only [stringLen, bind, nextHelperVar, varAssignment, varAssignStrLen, varEvaluation, Tr.get, addLine, Tr.modify, pure,
    varEvalString, varName_upd, adv]
  rfl

theorem stringSubscript_specF (v a b : String) (s : St) :
    stringSubscript v a b s = .ok ("${" ++ (ctxOf s).hn s.varCounter ++ "}",
      reqSt (adv s [.assign ((ctxOf s).hn s.varCounter) "${_ret}", .ssh v a b] 1) ⟨false, false, true⟩) := by
  simp only [stringSubscript, bind, nextHelperVar, varAssignment, Tr.get, addLine, Tr.modify, pure,
    varEvalString, adv, reqSt, varName, Bool.not_true, Bool.and_false, Bool.false_eq_true, if_false,
    Bool.or_false, Bool.or_true]
  rfl

theorem copyOp_specF (dst src : String) (g : Bool) (s : St) :
    copyOp dst src g s = .ok ("${" ++ (ctxOf s).hn s.varCounter ++ "}",
      reqSt (adv s [.assignSliceLen ((ctxOf s).hn s.varCounter) src, .sch ((ctxOf s).mg dst g) src] 1) ⟨true, true, false⟩) := by
  simp only [copyOp, bind, nextHelperVar, varAssignSliceLen, Tr.get, addLine, Tr.modify, pure,
    varEvalString, adv, reqSt, Bool.or_false, Bool.or_true, varName_ctx]
  rfl

/-- the same as `C03.initLines` (`initLines_eq`) -/
def sahInitLines (arr : String) : List String → Nat → List Line
  | [], _ => []
  | v :: rest, i => .sahInit arr i v :: sahInitLines arr rest (i + 1)

theorem initLines_eq (arr : String) : ∀ (vs : List String) (i : Nat), C03.initLines arr vs i = sahInitLines arr vs i
  | [], _ => rfl
  | v :: vs, i => by simp only [C03.initLines, sahInitLines, initLines_eq arr vs]

theorem sahInitLines_ok (ctx : Ctx) (hi : Nat) (ds : List String) (arr : String) : ∀ (vals : List String) (i : Nat),
    LinesOK ctx hi ds (sahInitLines arr vals i)
  | [], _ => LinesOK.nil _ _ _
  | _ :: rest, i => LinesOK.cons (sline_special1 ctx hi ds _ (y := "_c") (by decide) rfl rfl) (sahInitLines_ok ctx hi ds arr rest (i + 1))

theorem sliceInstantiation_specF (values : List String) (s : St) :
    sliceInstantiation values s = .ok ("${" ++ (ctxOf s).hn s.varCounter ++ "}",
      reqSt (adv s ((sahInitLines ("${" ++ (ctxOf s).hn s.varCounter ++ "}") values 0).reverse ++
        [.assign ((ctxOf s).hn s.varCounter) ("_dv" ++ "${_dvc}"), .dvcIncr]) 1) ⟨!values.isEmpty, false, false⟩) := by
  rw [C03.sliceInstantiation_run, initLines_eq]
  simp only [varEvalString, hn_eq]
  simp only [adv, reqSt, varName, Bool.not_true, Bool.and_false, Bool.false_eq_true, if_false, List.append_assoc,
    List.cons_append, List.nil_append, Bool.or_false]
  rfl

theorem toString_natCast (n : Nat) : toString ((n : Nat) : Int) = toString n := rfl

theorem exec_two {l1 l2 : Line} {m m1 m2 : Cfg} (h1c : isCall l1 = false) (h2c : isCall l2 = false)
    (h1 : stepSimple l1 m = some (.normal, m1)) (h2 : stepSimple l2 m1 = some (.normal, m2)) :
    ExecCmds ([l2, l1].reverse.map Cmd.simple) m .normal m2 :=
  execCmds_append (execCmds_step h1c h1) (execCmds_step h2c h2)

section
variable {ctx : Ctx} {T : List FEntry} {B n : Nat}

/-- `len` of a string: the value goes into the helper, then the helper is overwritten with its own length -/
theorem len_str_post {c1 : SCfg} {ts : List String} {a : Opd} {res : R (List Opd)} (hk : lenT true a c1 = some res) :
    ∃ o c2, res = .ok [o] c2 ∧ PostRuns ctx T B [.assignStrLen (ctx.hn n) (ctx.hn n), .assign (ctx.hn n) (firstValue ts)] n 1 ts [a] c1
      ("${" ++ ctx.hn n ++ "}") o c2 := by
  unfold lenT at hk
  split at hk
  case h_1 s hres =>
    cases hk
    refine ⟨_, _, rfl, fun m1 hi hh => ?_⟩
    have st1 := step2_assign m1 (ctx.hn n) (hh.first.expand hi.agree hres)
    refine ⟨_, exec_two rfl rfl st1 rfl, (hi.set_hn _ _).set_hn _ _, ⟨rfl, rfl, rfl⟩,
      ((KeepE.refl _ _ _ m1).set_helper (Nat.le_refl _) _).set_helper (Nat.le_refl _) _, ?_⟩
    refine holdsF_helper ctx n (.int s.length) _ ?_
    show (Store.set _ (ctx.hn n) _) (ctx.hn n) = _
    rw [Sem.set_same]
    show toString ((m1.ρ.set (ctx.hn n) (Val.str s).render) (ctx.hn n)).length = _
    rw [Sem.set_same]
    rfl
  all_goals cases hk

theorem len_slice_step {c1 : SCfg} {m1 : Cfg} {tx : String} {a : Opd} {id : Nat}
    (ha : AgreeF ctx c1 m1) (hh : HoldsF ctx tx a n m1.ρ) (hres : resolve c1 a = some (.slice id)) (hname : String) :
    stepSimple (.assignSliceLen hname tx) m1 =
      some (.normal, { m1 with ρ := m1.ρ.set hname (Val.int (c1.heap id).length).render }) := by
  simp only [stepSimple, hh.expand ha hres]
  show some (Out.normal, { m1 with ρ := m1.ρ.set hname (toString (m1.arr (sliceName id)).length) }) = _
  rw [ha.hp.heap id, List.length_map]
  rfl

theorem idx_step {c2 : SCfg} {tv ti : String} {a b : Opd} {res : R (List Opd)} (hk : indexT a b c2 = some res) (hname : String) :
    ∃ w : Val, res = .ok [.lit w] c2 ∧ ∀ m2, AgreeF ctx c2 m2 → HoldsF ctx tv a n m2.ρ → HoldsF ctx ti b n m2.ρ →
      stepSimple (.sliceLoad hname tv ti) m2 = some (.normal, { m2 with ρ := m2.ρ.set hname w.render }) := by
  unfold indexT at hk
  split at hk
  case h_2 => cases hk
  rename_i id k hva hvb
  split at hk
  case h_2 => cases hk
  rename_i i hi
  split at hk
  case h_2 => cases hk
  rename_i w hw
  cases hk
  refine ⟨w, rfl, fun m2 ha h1 h2 => ?_⟩
  simp only [stepSimple, h1.expand ha hva, h2.expandInt ha hvb, Option.bind, hi]
  show some (Out.normal, { m2 with ρ := m2.ρ.set hname ((m2.arr (sliceName id)).getD i "") }) = _
  rw [ha.hp.heap id, List.getD_eq_getElem?_getD, List.getElem?_map, hw]
  rfl

theorem copyInto_map {α β : Type} (f : α → β) (a b : List α) : copyInto (a.map f) (b.map f) = (copyInto a b).map f := by
  simp [copyInto, List.map_drop]

theorem copyInto_self_length {α : Type} (a b : List α) (sid did : Nat) (h : Nat → List α) (ha : h sid = a) (hb : h did = b) :
    ((if sid = did then copyInto a b else h sid)).length = a.length := by
  split
  · rename_i e
    subst e
    rw [ha] at hb; subst hb
    simp [copyInto]
  · rw [ha]

theorem expand_ret (ρ : Store) (w : String) : Sem.expand (ρ.set "_ret" w) "${_ret}" = some w := by
  have h := (complete_var (ρ.set "_ret" w) "_ret" (by decide)).toExpand
  rw [Sem.set_same] at h
  exact h

/-- a substring: `_ssh`, then the copy of `_ret` into the helper -/
theorem substr_post {c : SCfg} {m : Cfg} {tv ta tb : String} {v a b : Opd} {s : String} {i j : Int}
    {ls ll : Nat} (hi : Inv ctx T c m) (hv : HoldsF ctx tv v n m.ρ) (ha : HoldsF ctx ta a n m.ρ) (hb : HoldsF ctx tb b n m.ρ)
    (rv : resolve c v = some (.str s)) (ra : resolve c a = some (.int i)) (rb : resolve c b = some (.int j))
    (hls : natOf i = some ls) (hll : natOf (j - i + 1) = some ll) :
    ∃ m2, ExecCmds ([Line.assign (ctx.hn n) "${_ret}", .ssh tv ta tb].reverse.map Cmd.simple) m .normal m2 ∧
      Inv ctx T c m2 ∧ Ctl m m2 ∧ KeepE ctx B n m m2 ∧
      HoldsF ctx ("${" ++ ctx.hn n ++ "}") (.lit (.str (substrOf s ls ll))) (n + 1) m2.ρ := by
  have st1 : stepSimple (.ssh tv ta tb) m = some (.normal,
      { m with ρ := ((m.ρ.set "_ls" (toString ls)).set "_ll" (toString ll)).set "_ret" (substrOf s ls ll) }) := by
    simp only [stepSimple, hv.expand hi.agree rv, ha.expandInt hi.agree ra, hb.expandInt hi.agree rb, hls, hll]
    rfl
  have hi1 := ((hi.set_special (y := "_ls") (by decide) (by decide) (toString ls)).set_special (y := "_ll") (by decide) (by decide) (toString ll)).set_special
    (y := "_ret") (by decide) (by decide) (substrOf s ls ll)
  refine ⟨_, exec_two rfl rfl st1 (step2_assign _ (ctx.hn n) (expand_ret _ _)), hi1.set_hn _ _, ⟨rfl, rfl, rfl⟩, ?_, ?_⟩
  · exact ((((KeepE.refl _ _ _ m).set_special (y := "_ls") (by decide) _).set_special (y := "_ll") (by decide) _).set_special
      (y := "_ret") (by decide) _).set_helper (Nat.le_refl _) _
  · exact holdsF_helper ctx n (.str (substrOf s ls ll)) _ (Sem.set_same _ _ _)

/-- `copy(dst, src)`: `_sch`, then the length of the source -/
theorem copy_post {c1 : SCfg} {ts : List String} {a : Opd} {dst : Var} {res : R (List Opd)} (hk : copyT dst a c1 = some res) :
    ∃ o c2, res = .ok [o] c2 ∧
      PostRuns ctx T B [.assignSliceLen (ctx.hn n) (firstValue ts), .sch (ctx.mg dst.name dst.global) (firstValue ts)] n 1 ts [a] c1
        ("${" ++ ctx.hn n ++ "}") o c2 := by
  unfold copyT at hk
  split at hk
  case h_2 => cases hk
  rename_i sid did hres hdst
  split at hk
  case isFalse => cases hk
  rename_i hdid
  cases hk
  refine ⟨_, _, rfl, fun m1 hi hh => ?_⟩
  replace hh := hh.first
  have hd := (hi.agree.read hdst).2
  have st1 : stepSimple (.sch (ctx.mg dst.name dst.global) (firstValue ts)) m1 = some (.normal,
      { m1 with arr := aset m1.arr (sliceName did) ((copyInto (c1.heap sid) (c1.heap did)).map Val.render) }) := by
    simp only [stepSimple, hh.expand hi.agree hres, hd]
    show some (Out.normal, { m1 with arr := aset m1.arr (sliceName did) (copyInto (m1.arr (sliceName sid)) (m1.arr (sliceName did))) }) = _
    rw [hi.agree.hp.heap sid, hi.agree.hp.heap did, copyInto_map]
  have hi1 := hi.heap_write did hdid (copyInto (c1.heap sid) (c1.heap did))
  have hres1 := (resolve_congr (c := c1) (c' := { c1 with heap := hset c1.heap did (copyInto (c1.heap sid) (c1.heap did)) })
    (fun _ => rfl) a).trans hres
  have st2 := len_slice_step hi1.agree (m1 := { m1 with arr := aset m1.arr (sliceName did) ((copyInto (c1.heap sid) (c1.heap did)).map Val.render) })
    hh hres1 (ctx.hn n)
  have hlen : (hset c1.heap did (copyInto (c1.heap sid) (c1.heap did)) sid).length = (c1.heap sid).length :=
    copyInto_self_length _ _ sid did c1.heap rfl rfl
  rw [hlen] at st2
  refine ⟨_, exec_two rfl rfl st1 st2, hi1.set_hn _ _, ⟨rfl, rfl, rfl⟩, ?_, ?_⟩
  · exact ((KeepE.refl _ _ _ m1).set_arr _).set_helper (Nat.le_refl _) _
  · exact holdsF_helper ctx n (.int (c1.heap sid).length) _ (Sem.set_same _ _ _)

theorem sahSet_append {α : Type} (l : List α) (v d : α) : sahSet l l.length v d = l ++ [v] := by
  simp [sahSet]

theorem sahInits_exec {ctx : Ctx} {T : List FEntry} {B n : Nat} (id : Nat) :
    ∀ (ts : List String) (os : List Opd) (vs : List Val) (i : Nat) (c : SCfg) (m : Cfg) (pre : List Val),
      Inv ctx T c m → c.heap id = pre → pre.length = i → id ≤ c.next → m.ρ (ctx.hn n) = sliceName id →
      HoldsAllF ctx ts os n m.ρ → resolveAll c os = some vs →
      ∃ m', ExecCmds ((sahInitLines ("${" ++ ctx.hn n ++ "}") ts i).map Cmd.simple) m .normal m' ∧
        Inv ctx T { c with heap := hset c.heap id (pre ++ vs) } m' ∧ Ctl m m' ∧ KeepE ctx B (n + 1) m m' := by
  intro ts
  induction ts with
  | nil =>
    intro os vs i c m pre hi hpre _ hid _ hh hr
    cases os with
    | cons _ _ => exact hh.elim
    | nil =>
      cases hr
      refine ⟨m, ExecCmds.nil, ?_, Ctl.refl m, KeepE.refl _ _ _ m⟩
      rw [List.append_nil, ← hpre, hset_self]
      exact hi
  | cons t ts ih =>
    intro os vs i c m pre hi hpre hlen hid hname hh hr
    cases os with
    | nil => exact hh.elim
    | cons o os =>
      obtain ⟨v, vs', hv, hvs, rfl⟩ := resolveAll_cons hr
      have hexp : Sem.expand m.ρ ("${" ++ ctx.hn n ++ "}") = some (sliceName id) := by
        rw [(complete_var m.ρ (ctx.hn n) (ctx.hn_valid n)).toExpand, hname]
      have harr : m.arr (sliceName id) = pre.map Val.render := by rw [hi.agree.hp.heap id, hpre]
      have st : stepSimple (.sahInit ("${" ++ ctx.hn n ++ "}") i t) m = some (.normal,
          { m with ρ := m.ρ.set "_c" (toString (max (m.arr (sliceName id)).length i)),
                   arr := aset m.arr (sliceName id) ((pre ++ [v]).map Val.render) }) := by
        simp only [stepSimple, hexp, hh.1.expand hi.agree hv]
        have : sahSet (m.arr (sliceName id)) i v.render "" = (pre ++ [v]).map Val.render := by
          rw [harr, ← hlen, ← List.length_map (f := Val.render), sahSet_append]; simp
        rw [this]
      let c' : SCfg := { c with heap := hset c.heap id (pre ++ [v]) }
      have hi' : Inv ctx T c' ({ m with ρ := m.ρ.set "_c" (toString (max (m.arr (sliceName id)).length i)),
                                         arr := aset m.arr (sliceName id) ((pre ++ [v]).map Val.render) } : Cfg) :=
        (hi.heap_write id hid (pre ++ [v])).set_special (y := "_c") (by decide) (by decide) _
      have hh' : HoldsAllF ctx ts os n (m.ρ.set "_c" (toString (max (m.arr (sliceName id)).length i))) :=
        HoldsAllF.mono hh.2 (Nat.le_refl _) (fun j _ => Sem.set_other _ _ _ _ (ctx.hn_ne_special j (by decide)))
      obtain ⟨m', ex, hi2, hc2, hk2⟩ := ih os vs' (i + 1) c' _ (pre ++ [v]) hi' (hset_same _ _ _) (by simp [hlen]) hid
        (by show (m.ρ.set "_c" _) (ctx.hn n) = _; rw [Sem.set_other _ _ _ _ (ctx.hn_ne_special n (by decide))]; exact hname)
        hh' ((resolveAll_congr (c := c) (c' := c') (fun _ => rfl) os).trans hvs)
      simp only [c', hset_hset, List.append_assoc, List.singleton_append] at hi2
      exact ⟨m', ExecCmds.cons (ExecCmd.simple rfl st) ex, hi2, hc2,
        (((KeepE.refl _ _ _ m).set_special (y := "_c") (by decide) _).set_arr _).trans hk2 (Nat.le_refl _)⟩

theorem nat_toString_ne_empty (n : Nat) : toString n ≠ "" := by
  intro e
  have h : (toString n).toList = [] := by rw [e]; rfl
  exact Names.repr_ne_nil n h

theorem wrap64_inRange {n : Int} (h : Sem.Src.inRange n = true) : wrap64 n = n := by
  simp only [Sem.Src.inRange, Bool.and_eq_true, decide_eq_true_eq] at h
  unfold wrap64
  rw [Int.emod_eq_of_lt (by omega) (by omega)]
  omega

theorem dvcIncr_step {c : SCfg} {m : Cfg} (hd : m.ρ "_dvc" = dvcStr c.next) (hr : Sem.Src.inRange ((c.next + 1 : Nat) : Int) = true) :
    stepSimple .dvcIncr m = some (.normal, { m with ρ := m.ρ.set "_dvc" (toString (c.next + 1)) }) := by
  have h0 : (if m.ρ "_dvc" = "" then some 0 else asInt (m.ρ "_dvc")) = some (c.next : Int) := by
    rw [hd]
    by_cases hz : c.next = 0
    · simp [dvcStr, hz]
    · have : dvcStr c.next = toString c.next := by simp [dvcStr, hz]
      rw [this, if_neg (nat_toString_ne_empty _)]
      exact asInt_toString (c.next : Int)
  simp only [stepSimple, h0]
  have e : ((c.next : Int) + 1) = ((c.next + 1 : Nat) : Int) := by omega
  rw [e, wrap64_inRange hr]
  rfl

theorem dv_text (ρ : Store) : Sem.expand ρ ("_dv" ++ "${_dvc}") = some ("_dv" ++ ρ "_dvc") := by
  have h1 : Complete ρ "_dv".toList "_dv".toList := complete_plain ρ _ (by decide)
  have h2 := complete_var ρ "_dvc" (by decide)
  have e : ("${" ++ "_dvc" ++ "}" : String) = "${_dvc}" := by decide
  rw [e] at h2
  have := (h1.append h2)
  rw [← String.toList_append, ← String.toList_append] at this
  exact this.toExpand

/-- a slice literal: the counter, the name of the new array in the helper, the elements -/
theorem sliceNew_post {c1 : SCfg} {ts : List String} {os : List Opd} {res : R (List Opd)} (hk : sliceNewT os c1 = some res) :
    ∃ o c2, res = .ok [o] c2 ∧
      PostRuns ctx T B ((sahInitLines ("${" ++ ctx.hn n ++ "}") ts 0).reverse ++ [.assign (ctx.hn n) ("_dv" ++ "${_dvc}"), .dvcIncr]) n 1 ts os c1
        ("${" ++ ctx.hn n ++ "}") o c2 := by
  unfold sliceNewT at hk
  split at hk
  case h_2 => cases hk
  rename_i vs hr
  split at hk
  case isFalse => cases hk
  rename_i hrange
  cases hk
  refine ⟨_, _, rfl, fun m1 hi hh => ?_⟩
  have st1 := dvcIncr_step hi.agree.hp.dvc hrange
  have hi1 := hi.bump
  have hexp : Sem.expand (m1.ρ.set "_dvc" (toString (c1.next + 1))) ("_dv" ++ "${_dvc}") = some (sliceName (c1.next + 1)) := by
    rw [dv_text, Sem.set_same]; rfl
  have st2 := step2_assign { m1 with ρ := m1.ρ.set "_dvc" (toString (c1.next + 1)) } (ctx.hn n) hexp
  have hi2 := hi1.set_hn n (sliceName (c1.next + 1))
  have hh2 : HoldsAllF ctx ts os n ((m1.ρ.set "_dvc" (toString (c1.next + 1))).set (ctx.hn n) (sliceName (c1.next + 1))) :=
    HoldsAllF.mono hh (Nat.le_refl _) (fun j hj => by
      rw [Sem.set_other _ _ _ _ (fun e => by have := ctx.hn_inj e; omega), Sem.set_other _ _ _ _ (ctx.hn_ne_special j (by decide))])
  obtain ⟨m2, ex, hi3, hc3, hk3⟩ := sahInits_exec (B := B) (n := n) (c1.next + 1) ts os vs 0 { c1 with next := c1.next + 1 } _ [] hi2
    (hi.agree.hp.fresh _ (Nat.lt_succ_self _)) rfl (Nat.le_refl _) (Sem.set_same _ _ _) hh2
    ((resolveAll_congr (c := c1) (c' := { c1 with next := c1.next + 1 }) (fun _ => rfl) os).trans hr)
  refine ⟨m2, ?_, hi3, hc3, ?_, ?_⟩
  · rw [map_reverse_append, List.reverse_reverse]
    exact execCmds_append (exec_two rfl rfl st1 st2) ex
  · exact (((KeepE.refl _ _ _ m1).set_special (y := "_dvc") (by decide) _).set_helper (Nat.le_refl _) _).trans hk3 (Nat.le_succ _)
  · refine holdsF_helper ctx n (.slice (c1.next + 1)) _ ?_
    rw [hk3.helpers n (Nat.lt_succ_self _)]
    exact Sem.set_same _ _ _

end

end Tsh.Sem2
