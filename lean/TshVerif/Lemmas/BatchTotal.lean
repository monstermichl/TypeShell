/-
  Emit totality for the Batch target: every typed and well-placed AST is translated by the walk + batch
  converter model without an error and without a panic (no out-of-range access to the construct stacks,
  no "break outside of a loop", no operator rejected by the converter's own switch).  Instance of the
  generic typed walk (Lemmas/Hoare.lean).
-/
import TshVerif.Lemmas.Hoare
import TshVerif.Lemmas.BatchOps
namespace Tsh.Batch
open Tsh Tsh.Tr

/-- what `addLine` needs: a function being emitted has a non-empty name; once its first line exists there is a block to add to -/
structure BInv (s : St) : Prop where
  block : s.previousFunctionName ≠ "" → s.functionsCode ≠ []
  names : ∀ f ∈ s.funcs, f ≠ ""

abbrev Heights := Nat × Nat × Nat      -- ifs, loops, functions

def Inv (k : Heights) (s : St) : Prop :=
  BInv s ∧ s.ifs.length = k.1 ∧ s.fors.length = k.2.1 ∧ s.endLabels.length = k.2.1 ∧ s.funcs.length = k.2.2

def pushIf (k : Heights) : Heights := (k.1 + 1, k.2.1, k.2.2)
def pushFor (k : Heights) : Heights := (k.1, k.2.1 + 1, k.2.2)
def pushFunc (k : Heights) : Heights := (k.1, k.2.1, k.2.2 + 1)
def loopOK (k : Heights) : Prop := 1 ≤ k.2.1
def funcOK (k : Heights) : Prop := 1 ≤ k.2.2

/-- under every snapshot (`ka_<op>`); the lemmas `keeps_<op>` speak of ONE snapshot: a stack must be non-empty, is pushed or popped -/
abbrev KeepsAll {α : Type} (m : BM α) : Prop := Tr.KeepsAll Inv m

theorem Inv.of_core {k : Heights} {s t : St} (h : Inv k s) (e : core t = core s) : Inv k t := by
  simp only [core, Prod.mk.injEq] at e
  obtain ⟨_, e1, e2, _, e4, e5, e6, e3, _, _⟩ := e
  obtain ⟨hb, g1, g2, g3, g4⟩ := h
  exact ⟨⟨by rw [e1, e2]; exact hb.block, by rw [e3]; exact hb.names⟩, by rw [e4]; exact g1, by rw [e5]; exact g2, by rw [e6]; exact g3, by rw [e3]; exact g4⟩

theorem ka_nextHelperVar : KeepsAll nextHelperVar := fun _ _ h => ⟨_, _, rfl, h.of_core rfl⟩

theorem ka_modify (f : St → St) (hf : ∀ s, core (f s) = core s) : KeepsAll (Tr.modify f : BM Unit) :=
  fun _ => Triple.modify (fun s h => h.of_core (hf s))

theorem ka_addLine (l : BLine) : KeepsAll (addLine l) := by
  intro k s h
  obtain ⟨hb, g1, g2, g3, g4⟩ := h
  unfold addLine
  cases hf : s.funcs with
  | nil =>
    refine ⟨(), _, rfl, ⟨?_, ?_⟩, g1, g2, g3, ?_⟩
    · exact hb.block
    · simp
    · simp [hf] at g4 ⊢; exact g4
  | cons cur rest =>
    have hcur : cur ≠ "" := hb.names cur (by simp [hf])
    by_cases hp : cur = s.previousFunctionName
    · have hbne : (cur != s.previousFunctionName) = false := by simp [hp]
      simp only [hbne, Bool.false_eq_true, if_false]
      cases hfc : s.functionsCode with
      | nil => exact absurd hfc (hb.block (by rw [← hp]; exact hcur))
      | cons blk more =>
        refine ⟨(), _, rfl, ⟨?_, ?_⟩, g1, g2, g3, ?_⟩
        · intro _; simp
        · simp only [hf]; intro f hfm; exact hb.names f (by rw [hf]; exact hfm)
        · simpa [hf] using g4
    · have hbne : (cur != s.previousFunctionName) = true := by simp [hp]
      simp only [hbne, if_true]
      refine ⟨(), _, rfl, ⟨?_, ?_⟩, g1, g2, g3, ?_⟩
      · intro _; simp
      · intro f hfm; exact hb.names f (by rw [hf]; exact hfm)
      · simpa [hf] using g4

theorem Built.ka {α : Type} {m : BM α} (h : Built m) : KeepsAll m := by
  induction h with
  | pure a => exact ka_pure a
  | bind _ _ hx hf => exact ka_bind hx hf
  | get => exact ka_get
  | nextHelperVar => exact ka_nextHelperVar
  | addLine _ => exact ka_addLine _
  | addStartLine _ => exact fun _ => Triple.modify fun _ h => ⟨⟨h.1.block, h.1.names⟩, h.2⟩
  | flag f hf => exact ka_modify f hf

theorem keeps_copyRets (k : Heights) : ∀ (n i : Nat), KeepsQ (Inv k) (copyRets n i) (fun vs => vs.length = n) := by
  intro n
  induction n with
  | zero => intro i; unfold copyRets; exact keepsQ_pure _ rfl
  | succ n ih =>
    intro i; unfold copyRets
    exact Triple.bind (ka_nextHelperVar k) (fun _ => Triple.bind (ka_get k) (fun _ => Triple.bind (built_varAssignment.ka k) (fun _ =>
      Triple.bind (built_varEvaluation.ka k) (fun e => keepsQ_bindQ (ih _) (fun rest hr => keepsQ_pure _ (by simp [hr]))))))

theorem ka_unaryOp (e : String) : KeepsAll (unaryOp e "!") := by
  unfold unaryOp
  refine ka_bind ka_nextHelperVar (fun _ => ?_)
  simp only [beq_self_eq_true, if_true]
  exact (built_helperLine fun _ => rfl).ka

theorem ka_binaryOp (l op r : String) (vt : ValueType) (h : binaryAllowed vt op = true) : KeepsAll (binaryOp l op r vt) := by
  unfold binaryOp
  refine ka_bind ka_nextHelperVar (fun hv => ?_)
  simp only [binaryAllowed, Bool.and_eq_true, Bool.or_eq_true, Bool.not_eq_true', beq_iff_eq] at h
  obtain ⟨hs, h⟩ := h
  simp only [hs, Bool.false_eq_true, if_false]
  rcases h with ⟨hd, ho⟩ | ⟨hd, ho⟩
  · rw [hd]
    have : (op == "*" || op == "/" || op == "+" || op == "-" || op == "%") = true := by
      rcases ho with (((h1 | h1) | h1) | h1) | h1 <;> simp [h1]
    simp only [this, if_true]
    exact (built_helperLine fun _ => rfl).ka
  · rw [hd]
    simp only [ho, beq_self_eq_true, if_true]
    exact (Built.bind built_varAssignment fun _ => built_varEvaluation).ka

theorem compareOpString_ne (op : String) (vt : ValueType) (h : compareAllowed vt op = true) :
    ((compareOpString op vt).1.length == 0) = false := by
  simp only [compareAllowed, Bool.and_eq_true, Bool.or_eq_true, Bool.not_eq_true', beq_iff_eq] at h
  obtain ⟨hs, h⟩ := h
  unfold compareOpString
  simp only [hs, Bool.false_eq_true, if_false]
  rcases h with (⟨hd, ho⟩ | ⟨hd, ho⟩) | ⟨hd, ho⟩
  · rw [hd]; rcases ho with rfl | rfl <;> simp
  · rw [hd]; rcases ho with ((((rfl | rfl) | rfl) | rfl) | rfl) | rfl <;> simp
  · rw [hd]; rcases ho with rfl | rfl <;> simp

theorem ka_comparisonOp (l op r : String) (vt : ValueType) (h : compareAllowed vt op = true) : KeepsAll (comparisonOp l op r vt) := by
  unfold comparisonOp comparisonOpWith
  simp only [compareOpString_ne op vt h, Bool.false_eq_true, if_false]
  exact (Built.bind .nextHelperVar fun _ => built_helperLine fun _ => rfl).ka

theorem ka_logicalOp (l op r : String) (h : (op == "&&" || op == "||") = true) : KeepsAll (logicalOp l op r) := by
  unfold logicalOp
  refine ka_bind ka_nextHelperVar (fun _ => ka_bind ka_get (fun _ => ?_))
  simp only [Bool.or_eq_true, beq_iff_eq] at h
  rcases h with rfl | rfl
  · simp only [beq_self_eq_true, if_true]
    exact (Built.bind (.addLine rfl) fun _ => built_varEvaluation).ka
  · have : (("||" : String) == "&&") = false := by decide
    simp only [this, Bool.false_eq_true, if_false, beq_self_eq_true, if_true]
    exact (Built.bind (.addLine rfl) fun _ => built_varEvaluation).ka

theorem keeps_funcCallOp (k : Heights) (n : String) (a : List String) (r : List ValueType) (u : Bool) :
    KeepsQ (Inv k) (funcCallOp n a r u) (fun vs => u = true → vs.length = r.length) := by
  unfold funcCallOp
  refine Triple.bind (built_callFunc.ka k) (fun _ => ?_)
  cases u with
  | true =>
    simp only [if_true]
    exact keepsQ_bindQ (keeps_copyRets k _ _) (fun out ho => keepsQ_pure _ (fun _ => by simp [ho]))
  | false =>
    simp only [Bool.false_eq_true, if_false]
    exact Triple.bind (ka_pure _ k) (fun _ => keepsQ_pure _ (fun h => by cases h))

theorem keeps_appCallOp (k : Heights) (cs : List (String × List String)) (u : Bool) :
    KeepsQ (Inv k) (appCallOp cs u) (fun vs => u = true → vs.length = 3) := by
  unfold appCallOp appCallWith
  cases u with
  | true =>
    simp only [if_true]
    refine Triple.bind (ka_nextHelperVar k) (fun _ => Triple.bind (ka_nextHelperVar k) (fun _ => Triple.bind ?_ (fun _ =>
      Triple.bind (built_addLf.ka k) (fun _ => Triple.bind (built_callFunc.ka k) (fun _ => Triple.bind (ka_get k) (fun _ =>
        Triple.bind (built_varAssignment.ka k) (fun _ => Triple.bind (built_varEvaluation.ka k) (fun _ => Triple.bind (ka_get k) (fun _ =>
          Triple.bind (built_varAssignment.ka k) (fun _ => Triple.bind (ka_get k) (fun _ => keepsQ_pure _ (fun _ => rfl))))))))))))
    exact ka_modify _ (by intro s; rfl) k
  | false =>
    simp only [Bool.false_eq_true, if_false]
    exact Triple.bind (ka_addLine _ k) (fun _ => keepsQ_pure _ (fun h => by cases h))

theorem batch_texprOps (k : Heights) : TExprOps conv (Inv k) where
  stringToString := fun s => (built_stringToString s).ka k
  varDefinition := fun n v g => built_varAssignment.ka k
  unaryOperation := fun e _ _ => ka_unaryOp e k
  binaryOperation := fun l o r t _ h => ka_binaryOp l o r t h k
  -- `dsimp` first: the unifier would unfold `comparisonOp` instead, slowly
  comparison := fun l o r t _ h => by dsimp only [conv]; exact ka_comparisonOp l o r t h k
  logicalOperation := fun l o r _ _ h => ka_logicalOp l o r h k
  varEvaluation := fun n _ g => built_varEvaluation.ka k
  sliceInstantiation := fun vs _ => (built_sliceInstantiationOp vs).ka k
  sliceEvaluation := fun n i _ => (built_sliceEvaluationOp n i).ka k
  sliceLen := fun n _ => (built_sliceLenOp n).ka k
  stringSubscript := fun v a b _ => (built_stringSubscriptOp v a b).ka k
  stringLen := fun v _ => (built_stringLenOp v).ka k
  funcCall := fun n a r u => keeps_funcCallOp k n a r u
  appCall := fun cs u => keeps_appCallOp k cs u
  input := fun p _ => (built_inputOp p).ka k
  copy := fun d s _ g => (built_copyOp d s g).ka k
  exists_ := fun p _ => (built_existsOp p).ka k
  readFile := fun p _ => (built_readFileOp p).ka k

theorem keeps_currentIf (k : Heights) : Keeps (Inv (pushIf k)) currentIf := by
  intro s h
  have hl : s.ifs.length = k.1 + 1 := h.2.1
  cases hi : s.ifs with
  | nil => rw [hi] at hl; simp at hl
  | cons l rest => exact ⟨l, s, by simp [currentIf, hi], h⟩

theorem keeps_currentFor (k : Heights) (hk : loopOK k) : Keeps (Inv k) currentFor := by
  intro s h
  have hl : s.fors.length = k.2.1 := h.2.2.1
  cases hi : s.fors with
  | nil => rw [hi] at hl; simp at hl; unfold loopOK at hk; omega
  | cons l rest => exact ⟨l, s, by simp [currentFor, hi], h⟩

theorem keeps_currentFunc (k : Heights) (hk : funcOK k) : Keeps (Inv k) currentFunc := by
  intro s h
  have hl : s.funcs.length = k.2.2 := h.2.2.2.2
  cases hi : s.funcs with
  | nil => rw [hi] at hl; simp at hl; unfold funcOK at hk; omega
  | cons l rest => exact ⟨l, s, by simp [currentFunc, hi], h⟩

theorem loopOK_pushFor (k : Heights) : loopOK (pushFor k) := by simp [loopOK, pushFor]
theorem funcOK_pushFunc (k : Heights) : funcOK (pushFunc k) := by simp [funcOK, pushFunc]

theorem keeps_funcStartOp (k : Heights) (n : String) (ps : List String) (hn : n ≠ "") :
    Triple (Inv k) (funcStartOp n ps) (fun _ => Inv (pushFunc k)) := by
  unfold funcStartOp
  refine Triple.bind (q := fun _ => Inv (pushFunc k)) (Triple.modify ?_) (fun _ => Triple.bind (ka_addLine _ _) (fun _ =>
    Triple.bind (ka_addLine _ _) (fun _ => Triple.bind (ka_addLine _ _) (fun _ => (built_setParams _ _).ka _))))
  intro s h
  obtain ⟨hb, g1, g2, g3, g4⟩ := h
  refine ⟨⟨hb.block, ?_⟩, g1, g2, g3, by simp [pushFunc, g4]⟩
  intro f hf
  simp at hf
  rcases hf with rfl | hf
  · exact hn
  · exact hb.names f hf

theorem keeps_funcEndOp (k : Heights) : Triple (Inv (pushFunc k)) funcEndOp (fun _ => Inv k) := by
  unfold funcEndOp
  refine Triple.bind (keeps_currentFunc _ (funcOK_pushFunc k)) (fun _ => Triple.bind (ka_addLine _ _) (fun _ => Triple.bind (ka_addLine _ _) (fun _ =>
    Triple.bind (ka_addLine _ _) (fun _ => Triple.bind (ka_addLine _ _) (fun _ => Triple.modify ?_)))))
  intro s h
  obtain ⟨hb, g1, g2, g3, g4⟩ := h
  refine ⟨⟨hb.block, fun f hf => hb.names f (List.mem_of_mem_drop hf)⟩, g1, g2, g3, ?_⟩
  simp only [pushFunc] at g4
  simp [g4]

theorem keeps_retOp (k : Heights) (vs : List String) (hk : funcOK k) : Keeps (Inv k) (retOp vs) := by
  unfold retOp
  exact Triple.bind (keeps_currentFunc k hk) (fun _ => Triple.bind ((built_storeRets _ _).ka k) (fun _ => ka_addLine _ k))

theorem keeps_ifStartOp (k : Heights) (c : String) : Triple (Inv k) (ifStartOp c) (fun _ => Inv (pushIf k)) := by
  unfold ifStartOp
  refine Triple.bind (q := fun _ => Inv (pushIf k)) (Triple.modify ?_) (fun _ => ka_addLine _ _)
  intro s h
  obtain ⟨hb, g1, g2, g3, g4⟩ := h
  exact ⟨⟨hb.block, hb.names⟩, by simp [pushIf, g1], g2, g3, g4⟩

theorem keeps_ifEndOp (k : Heights) : Triple (Inv (pushIf k)) ifEndOp (fun _ => Inv k) := by
  unfold ifEndOp
  refine Triple.bind (keeps_currentIf k) (fun _ => Triple.bind (ka_addLine _ _) (fun _ => Triple.bind (ka_addLine _ _) (fun _ =>
    Triple.bind (ka_addLine _ _) (fun _ => Triple.modify ?_))))
  intro s h
  obtain ⟨hb, g1, g2, g3, g4⟩ := h
  refine ⟨⟨hb.block, hb.names⟩, ?_, g2, g3, g4⟩
  simp only [pushIf] at g1
  simp [g1]

theorem keeps_gotoIf (k : Heights) {rest : BM Unit} (h : KeepsAll rest) :
    Keeps (Inv (pushIf k)) (do let l ← currentIf; addLine (.cgoto l); rest : BM Unit) :=
  Triple.bind (keeps_currentIf k) (fun _ => Triple.bind (ka_addLine _ _) (fun _ => h _))

theorem keeps_elseIfStartOp (k : Heights) (c : String) : Keeps (Inv (pushIf k)) (elseIfStartOp c) := keeps_gotoIf k (ka_addLine _)

theorem keeps_elseStartOp (k : Heights) : Keeps (Inv (pushIf k)) elseStartOp := keeps_gotoIf k (ka_addLine _)

theorem keeps_forStartOp (k : Heights) : Triple (Inv k) forStartOp (fun _ => Inv (pushFor k)) := by
  unfold forStartOp
  refine Triple.bind (q := fun _ => Inv (pushFor k)) (Triple.modify ?_) (fun _ => Triple.bind (ka_get _) (fun _ =>
    Triple.bind (keeps_currentFor _ (loopOK_pushFor k)) (fun _ => Triple.bind (ka_addLine _ _) (fun _ => ka_addLine _ _))))
  intro s h
  obtain ⟨hb, g1, g2, g3, g4⟩ := h
  exact ⟨⟨hb.block, hb.names⟩, g1, by simp [pushFor, g2], by simp [pushFor, g3], g4⟩

theorem ka_forIncrementStartOp : KeepsAll forIncrementStartOp := by
  unfold forIncrementStartOp; exact ka_bind ka_get (fun _ => ka_addLine _)

theorem ka_forIncrementEndOp : KeepsAll forIncrementEndOp := by
  unfold forIncrementEndOp; exact ka_bind ka_get (fun _ => ka_bind (ka_addLine _) (fun _ => ka_addLine _))

theorem keeps_forEndOp (k : Heights) : Triple (Inv (pushFor k)) forEndOp (fun _ => Inv k) := by
  unfold forEndOp
  refine Triple.bind (keeps_currentFor _ (loopOK_pushFor k)) (fun _ => Triple.bind (ka_addLine _ _) (fun _ => Triple.bind (ka_addLine _ _) (fun _ => ?_)))
  intro s h
  obtain ⟨hb, g1, g2, g3, g4⟩ := h
  simp only [pushFor] at g2 g3
  cases he : s.endLabels with
  | nil => rw [he] at g3; simp at g3
  | cons e rest =>
    have hI : Inv k { s with endLabels := rest, fors := s.fors.drop 1 } := by
      refine ⟨⟨hb.block, hb.names⟩, g1, ?_, ?_, g4⟩
      · simp [g2]
      · rw [he] at g3; simpa using g3
    obtain ⟨u, s', hr, hI'⟩ := ka_addLine (.clabel e) k _ hI
    refine ⟨u, s', ?_, hI'⟩
    simp only [bind, Tr.get, he, forEndTail, Tr.modify]
    exact hr

theorem keeps_brkOp (k : Heights) (hk : loopOK k) : Keeps (Inv k) brkOp := by
  intro s h
  have hl : s.endLabels.length = k.2.1 := h.2.2.2.1
  cases he : s.endLabels with
  | nil => rw [he] at hl; simp at hl; unfold loopOK at hk; omega
  | cons e rest =>
    obtain ⟨u, s', hr, hI'⟩ := ka_addLine (.cgoto e) k s h
    refine ⟨u, s', ?_, hI'⟩
    simp only [brkOp, bind, Tr.get, he, brkTail]
    exact hr

theorem keeps_contOp (k : Heights) (hk : loopOK k) : Keeps (Inv k) contOp := by
  unfold contOp
  exact Triple.bind (keeps_currentFor k hk) (fun _ => ka_addLine _ k)

theorem batch_tstmtOps : TStmtOps conv Inv pushIf pushFor pushFunc loopOK funcOK where
  expr := batch_texprOps
  sliceAssignment := fun k n i v d g => (built_sliceAssignmentOp n i v d g).ka k
  funcStart := keeps_funcStartOp
  funcEnd := keeps_funcEndOp
  ret := keeps_retOp
  ifStart := keeps_ifStartOp
  ifEnd := keeps_ifEndOp
  elseIfStart := keeps_elseIfStartOp
  elseIfEnd := fun _ => keeps_pure _
  elseStart := keeps_elseStartOp
  elseEnd := fun _ => keeps_pure _
  forStart := keeps_forStartOp
  forIncrementStart := fun k => ka_forIncrementStartOp _
  forIncrementEnd := fun k => ka_forIncrementEndOp _
  forCondition := fun k c => ka_addLine _ _
  forEnd := keeps_forEndOp
  brk := keeps_brkOp
  cont := keeps_contOp
  print := fun k vs => (built_callEcho vs).ka k
  panic := fun k v => (built_panicOp v).ka k
  writeFile := fun k p c a => (built_writeFileOp p c a).ka k
  nop := fun k => ka_addLine _ k
  loopOK_pushFor := loopOK_pushFor
  loopOK_pushIf := fun k h => by simpa [loopOK, pushIf] using h
  funcOK_pushFunc := funcOK_pushFunc
  funcOK_pushIf := fun k h => by simpa [funcOK, pushIf] using h
  funcOK_pushFor := fun k h => by simpa [funcOK, pushFor] using h

theorem compile_total (p : Program) (ht : typedProgram p = true) (hp : placedStmts {} p = true) : ∃ ls, compile p = .ok ls := by
  have h0 : Inv (0, 0, 0) ({} : St) := ⟨⟨fun h => absurd rfl h, fun f hf => by simp at hf⟩, rfl, rfl, rfl, rfl⟩
  have hrun : Keeps (Inv (0, 0, 0)) (evalProgram conv p) := by
    unfold evalProgram
    refine Triple.bind ?_ (fun _ => Triple.bind
      (evalStmts_typed conv Inv pushIf pushFor pushFunc loopOK funcOK batch_tstmtOps p ht {} hp rfl (0, 0, 0)
        (fun h => by cases h) (fun h => by cases h)) (fun _ => keeps_pure _))
    exact built_programStart.ka _
  obtain ⟨u, s, hs, _⟩ := hrun {} h0
  exact ⟨dumpLines s, by unfold compile; rw [hs]⟩

theorem emitBatch_total (p : Program) (ht : typedProgram p = true) (hp : placedStmts {} p = true) :
    ∃ script, emitBatch p = .ok script :=
  let ⟨ls, h⟩ := compile_total p ht hp; ⟨renderScript ls, by unfold emitBatch; rw [h]⟩

end Tsh.Batch
