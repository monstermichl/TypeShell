/-
  A tracing converter: every converter operation appends one event (its name and the operand texts it
  was given) to a log and returns a fresh symbolic value.  Because the transpiler walk is written once,
  generically over the converter, the order and multiplicity of the operations it requests are the
  same for every converter; the tracing converter makes them observable.
-/
import TshVerif.Lemmas.Walk
namespace Tsh.Trace
open Tsh Tsh.Tr

structure Ev where
  op : String
  args : List String
deriving Repr, DecidableEq

structure TS where
  next : Nat := 0
  log : List Ev := []       -- oldest first
deriving Repr

abbrev TM := EM TS

def val (op : String) (args : List String) : TM String := fun s =>
  .ok (s!"#{s.next}", { next := s.next + 1, log := s.log ++ [⟨op, args⟩] })

def act (op : String) (args : List String) : TM Unit := fun s =>
  .ok ((), { s with log := s.log ++ [⟨op, args⟩] })

def conv : Conv TS where
  stringToString s := val "literal" [s]
  programStart := act "programStart" []
  programEnd := act "programEnd" []
  varDefinition n v g := act "store" [n, v, toString g]
  sliceAssignment n i v d g := act "sliceStore" [n, i, v, d, toString g]
  funcStart n ps := act "funcStart" (n :: ps)
  funcEnd := act "funcEnd" []
  ret vs := act "return" vs
  ifStart c := act "if" [c]
  ifEnd := act "endif" []
  elseIfStart c := act "elif" [c]
  elseIfEnd := act "endelif" []
  elseStart := act "else" []
  elseEnd := act "endelse" []
  forStart := act "for" []
  forIncrementStart := act "incr" []
  forIncrementEnd := act "endincr" []
  forCondition c := act "forcond" [c]
  forEnd := act "endfor" []
  brk := act "break" []
  cont := act "continue" []
  print vs := act "print" vs
  panic v := act "panic" [v]
  writeFile p c a := act "write" [p, c, a]
  nop := act "nop" []
  unaryOperation e o _ _ := val "unary" [o, e]
  binaryOperation l o r _ _ := val "binary" [o, l, r]
  comparison l o r _ _ := val "compare" [o, l, r]
  logicalOperation l o r _ _ := val "logical" [o, l, r]
  varEvaluation n _ g := val "load" [n, toString g]
  sliceInstantiation vs _ := val "slice" vs
  sliceEvaluation n i _ := val "index" [n, i]
  sliceLen n _ := val "slicelen" [n]
  stringSubscript v a b _ := val "substr" [v, a, b]
  stringLen v _ := val "strlen" [v]
  funcCall n a r _ := fun s =>
    .ok ((List.range r.length).map (fun i => s!"#{s.next}.{i}"), { next := s.next + 1, log := s.log ++ [⟨"call", n :: a⟩] })
  appCall cs _ := fun s =>
    .ok ([s!"#{s.next}.out", "", s!"#{s.next}.status"],
         { next := s.next + 1, log := s.log ++ [⟨"app", cs.flatMap fun c => c.1 :: c.2⟩] })
  input p _ := val "input" [p]
  copy d s _ g := val "copy" [d, s, toString g]
  exists_ p _ := val "exists" [p]
  readFile p _ := val "read" [p]

theorem bind_ok {σ α β : Type} {x : EM σ α} {f : α → EM σ β} {s : σ} {b : β} {s'' : σ}
    (h : (x >>= f) s = .ok (b, s'')) : ∃ a s', x s = .ok (a, s') ∧ f a s' = .ok (b, s'') := EM.bind_ok h

end Tsh.Trace
