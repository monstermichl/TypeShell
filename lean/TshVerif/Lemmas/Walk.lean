/-
  Induction over the transpiler walk (Model/Transpile.lean), generic over the converter.
  * `Rel R m`: every successful run of `m` relates the state before to the state after by `R`; `Closed`: a predicate on
    computations closed under `pure`, `bind`, `fail` (for reflexive transitive `R`, `Rel R` is one).
  * Expressions: whatever adds up along `bind` and counts every operation once gives the walk of `e` the count `opCount e`
    (`exprWalk_counted`); a closed family that holds of the operations holds of the walk (`exprWalk_closed`: the count ignored).
  * Statements: a family `P k m` ("running `m` changes a measure by exactly `k`", `Graded`): if the grades of the structural
    operations cancel per construct, every statement has grade 0 (`stmtWalk_graded`; `stmtWalk_closed`: the grade ignored).
  The cases are those of `evalExpr.mutual_induct`, `evalStmt.mutual_induct`: one per match arm, in the order of the arms; an `if`
  on the AST alone (the type check of `read`, of `write`) is two; a catch-all arm is reached by `f.eq_N`.
  An operation of `Conv` is a field of `ExprOps`/`COps`/`TExprOps` (Hoare) or of `StmtOps`/`GStmtOps`/`TStmtOps`; `varDefinition` is
  with the former for `storeValues`/`assignedValues` (no expression calls it: not in `COps`).  `{ ops with }` fills fields by name.
-/
import TshVerif.Model.Transpile
namespace Tsh.Trace
open Tsh

/- number of converter operations an expression asks for: one per operator / builtin / call /
   variable read / string literal node, none for bool and int literals, grouping and itoa -/
mutual
def opCount : Expr → Nat
  | .boolLit _ | .intLit _ => 0
  | .strLit _ => 1
  | .varEval _ => 1
  | .unary _ x _ => opCount x + 1
  | .binary _ l r => opCount l + opCount r + 1
  | .compare _ l r => opCount l + opCount r + 1
  | .logical _ l r => opCount l + opCount r + 1
  | .group x => opCount x
  | .call _ _ args => opCounts args + 1
  | .app _ args none => opCounts args + 1
  | .app _ args (some nx) => opCounts args + chainCount nx + 1
  | .sliceNew _ vals => opCounts vals + 1
  | .sliceEval v i _ => opCount v + opCount i + 1
  | .substr v a none => opCount a + opCount v + 1
  | .substr v a (some b) => opCount a + opCount b + opCount v + 1
  | .len x => opCount x + 1
  | .itoa x => opCount x
  | .exists_ x => opCount x + 1
  | .read x => opCount x + 1
  | .input none => 1
  | .input (some x) => opCount x + 1
  | .copy _ src => opCount src + 1
  | .write _ _ _ => 0
  | .bad _ => 0
def opCounts : List Expr → Nat
  | [] => 0
  | e :: rest => opCount e + opCounts rest
/-- operations for the arguments of a chain of program calls -/
def chainCount : Expr → Nat
  | .app _ args none => opCounts args
  | .app _ args (some nx) => opCounts args + chainCount nx
  | _ => 0
end

end Tsh.Trace

namespace Tsh.Tr
open Tsh Tsh.Trace

theorem EM.bind_ok {σ α β : Type} {x : EM σ α} {f : α → EM σ β} {s : σ} {b : β} {s'' : σ}
    (h : (x >>= f) s = .ok (b, s'')) : ∃ a s', x s = .ok (a, s') ∧ f a s' = .ok (b, s'') := by
  simp only [bind] at h
  cases hx : x s with
  | ok p => rw [hx] at h; exact ⟨p.1, p.2, rfl, h⟩
  | error m => rw [hx] at h; cases h
  | panic m => rw [hx] at h; cases h

theorem EM.pure_ok {σ α : Type} {a b : α} {s s' : σ} (h : (pure a : EM σ α) s = .ok (b, s')) : b = a ∧ s' = s := by
  cases h; exact ⟨rfl, rfl⟩

theorem EM.bind_run {σ α β : Type} {x : EM σ α} {f : α → EM σ β} {s s' : σ} {a : α} (h : x s = .ok (a, s')) :
    (x >>= f) s = f a s' := by
  simp only [bind, h]

def Rel {σ α : Type} (R : σ → σ → Prop) (m : EM σ α) : Prop := ∀ s a s', m s = .ok (a, s') → R s s'

section
variable {σ α β : Type} {R : σ → σ → Prop}

theorem Rel.pure (refl : ∀ s, R s s) (a : α) : Rel R (pure a : EM σ α) :=
  fun s _ _ h => (EM.pure_ok h).2 ▸ refl s

theorem Rel.bind (trans : ∀ {a b c}, R a b → R b c → R a c) {x : EM σ α} {f : α → EM σ β}
    (hx : Rel R x) (hf : ∀ a, Rel R (f a)) : Rel R (x >>= f) := by
  intro s b s'' h
  obtain ⟨a, s', h1, h2⟩ := EM.bind_ok h
  exact trans (hx _ _ _ h1) (hf a _ _ _ h2)

theorem Rel.fail (m : String) : Rel R (fail m : EM σ α) := fun _ _ _ h => nomatch h
theorem Rel.panic (m : String) : Rel R (panic m : EM σ α) := fun _ _ _ h => nomatch h

theorem Rel.get (refl : ∀ s, R s s) : Rel R (get : EM σ σ) := by
  intro s a s' h; cases h; exact refl s

theorem Rel.modify (f : σ → σ) (h : ∀ s, R s (f s)) : Rel R (modify f) := by
  intro s a s' hr; cases hr; exact h s

theorem Rel.mono {R' : σ → σ → Prop} (h : ∀ {s s'}, R s s' → R' s s') {m : EM σ α} (hm : Rel R m) : Rel R' m :=
  fun s a s' hr => h (hm s a s' hr)
end

structure Closed (σ : Type) where
  P : {α : Type} → EM σ α → Prop
  pure : ∀ {α : Type} (a : α), P (Pure.pure a : EM σ α)
  bind : ∀ {α β : Type} (x : EM σ α) (f : α → EM σ β), P x → (∀ a, P (f a)) → P (x >>= f)
  fail : ∀ {α : Type} (m : String), P (fail m : EM σ α)

def Closed.ofRel {σ : Type} (R : σ → σ → Prop) (refl : ∀ s, R s s) (trans : ∀ {a b c}, R a b → R b c → R a c) : Closed σ where
  P := fun m => Rel R m
  pure := Rel.pure refl
  bind := fun _ _ hx hf => Rel.bind (R := R) trans hx hf
  fail := Rel.fail

structure ExprOps {σ : Type} (C : Closed σ) (cv : Conv σ) : Prop where
  stringToString : ∀ s, C.P (cv.stringToString s)
  varDefinition : ∀ n v g, C.P (cv.varDefinition n v g)
  unaryOperation : ∀ e o t u, C.P (cv.unaryOperation e o t u)
  binaryOperation : ∀ l o r t u, C.P (cv.binaryOperation l o r t u)
  comparison : ∀ l o r t u, C.P (cv.comparison l o r t u)
  logicalOperation : ∀ l o r t u, C.P (cv.logicalOperation l o r t u)
  varEvaluation : ∀ n u g, C.P (cv.varEvaluation n u g)
  sliceInstantiation : ∀ vs u, C.P (cv.sliceInstantiation vs u)
  sliceEvaluation : ∀ n i u, C.P (cv.sliceEvaluation n i u)
  sliceLen : ∀ n u, C.P (cv.sliceLen n u)
  stringSubscript : ∀ v a b u, C.P (cv.stringSubscript v a b u)
  stringLen : ∀ v u, C.P (cv.stringLen v u)
  funcCall : ∀ n a r u, C.P (cv.funcCall n a r u)
  appCall : ∀ cs u, C.P (cv.appCall cs u)
  input : ∀ p u, C.P (cv.input p u)
  copy : ∀ d s u g, C.P (cv.copy d s u g)
  exists_ : ∀ p u, C.P (cv.exists_ p u)
  readFile : ∀ p u, C.P (cv.readFile p u)

theorem ExprOps.imp {σ : Type} {C D : Closed σ} {cv : Conv σ} (h : ∀ {α : Type} {m : EM σ α}, C.P m → D.P m)
    (o : ExprOps C cv) : ExprOps D cv where
  stringToString := fun s => h (o.stringToString s)
  varDefinition := fun n v g => h (o.varDefinition n v g)
  unaryOperation := fun e op t u => h (o.unaryOperation e op t u)
  binaryOperation := fun l op r t u => h (o.binaryOperation l op r t u)
  comparison := fun l op r t u => h (o.comparison l op r t u)
  logicalOperation := fun l op r t u => h (o.logicalOperation l op r t u)
  varEvaluation := fun n u g => h (o.varEvaluation n u g)
  sliceInstantiation := fun vs u => h (o.sliceInstantiation vs u)
  sliceEvaluation := fun n i u => h (o.sliceEvaluation n i u)
  sliceLen := fun n u => h (o.sliceLen n u)
  stringSubscript := fun v a b u => h (o.stringSubscript v a b u)
  stringLen := fun v u => h (o.stringLen v u)
  funcCall := fun n a r u => h (o.funcCall n a r u)
  appCall := fun cs u => h (o.appCall cs u)
  input := fun p u => h (o.input p u)
  copy := fun d s u g => h (o.copy d s u g)
  exists_ := fun p u => h (o.exists_ p u)
  readFile := fun p u => h (o.readFile p u)

structure Counted (σ : Type) where
  P : {α : Type} → Nat → EM σ α → Prop
  pure : ∀ {α : Type} (a : α), P 0 (Pure.pure a : EM σ α)
  bind : ∀ {α β : Type} {j k : Nat} {x : EM σ α} {f : α → EM σ β}, P j x → (∀ a, P k (f a)) → P (j + k) (x >>= f)
  fail : ∀ {α : Type} (k : Nat) (m : String), P k (fail m : EM σ α)

structure COps {σ : Type} (N : Counted σ) (cv : Conv σ) : Prop where
  stringToString : ∀ s, N.P 1 (cv.stringToString s)
  unaryOperation : ∀ e o t u, N.P 1 (cv.unaryOperation e o t u)
  binaryOperation : ∀ l o r t u, N.P 1 (cv.binaryOperation l o r t u)
  comparison : ∀ l o r t u, N.P 1 (cv.comparison l o r t u)
  logicalOperation : ∀ l o r t u, N.P 1 (cv.logicalOperation l o r t u)
  varEvaluation : ∀ n u g, N.P 1 (cv.varEvaluation n u g)
  sliceInstantiation : ∀ vs u, N.P 1 (cv.sliceInstantiation vs u)
  sliceEvaluation : ∀ n i u, N.P 1 (cv.sliceEvaluation n i u)
  sliceLen : ∀ n u, N.P 1 (cv.sliceLen n u)
  stringSubscript : ∀ v a b u, N.P 1 (cv.stringSubscript v a b u)
  stringLen : ∀ v u, N.P 1 (cv.stringLen v u)
  funcCall : ∀ n a r u, N.P 1 (cv.funcCall n a r u)
  appCall : ∀ cs u, N.P 1 (cv.appCall cs u)
  input : ∀ p u, N.P 1 (cv.input p u)
  copy : ∀ d s u g, N.P 1 (cv.copy d s u g)
  exists_ : ∀ p u, N.P 1 (cv.exists_ p u)
  readFile : ∀ p u, N.P 1 (cv.readFile p u)

theorem Counted.cast {σ α : Type} (N : Counted σ) {j k : Nat} {m : EM σ α} (h : N.P j m) (e : j = k) : N.P k m := e ▸ h

theorem Counted.value {σ : Type} (N : Counted σ) {x : EM σ String} (hx : N.P 1 x) : N.P 1 (x >>= fun s => Pure.pure [s]) :=
  N.bind hx (fun _ => N.pure _)

theorem exprWalk_counted {σ : Type} (N : Counted σ) (cv : Conv σ) (ops : COps N cv) :
    (∀ e used, N.P (opCount e) (evalExpr cv e used)) ∧ (∀ e, N.P (chainCount e) (evalAppChain cv e)) ∧
    ∀ es, N.P (opCounts es) (evalArgs cv es) := by
  apply evalExpr.mutual_induct
  · intro used b; unfold evalExpr; exact N.pure _
  · intro used n; unfold evalExpr; exact N.pure _
  · intro used s; unfold evalExpr; exact N.value (ops.stringToString _)
  · intro used op x vt ih; unfold evalExpr
    exact N.bind ih (fun _ => N.value (ops.unaryOperation _ _ _ _))
  · intro used op l r ihl ihr; unfold evalExpr
    exact N.cast (N.bind ihl (fun _ => N.bind ihr (fun _ => N.value (ops.binaryOperation _ _ _ _ _)))) (Nat.add_assoc _ _ _).symm
  · intro used op l r ihl ihr; unfold evalExpr
    exact N.cast (N.bind ihl (fun _ => N.bind ihr (fun _ => N.value (ops.comparison _ _ _ _ _)))) (Nat.add_assoc _ _ _).symm
  · intro used op l r ihl ihr; unfold evalExpr
    exact N.cast (N.bind ihl (fun _ => N.bind ihr (fun _ => N.value (ops.logicalOperation _ _ _ _ _)))) (Nat.add_assoc _ _ _).symm
  · intro used v; unfold evalExpr; exact N.value (ops.varEvaluation _ _ _)
  · intro used value index dt ihv ihi; unfold evalExpr
    exact N.cast (N.bind ihv (fun _ => N.bind ihi (fun _ => N.value (ops.sliceEvaluation _ _ _)))) (Nat.add_assoc _ _ _).symm
  · intro used value start iha ihv; unfold evalExpr
    exact N.cast (N.bind iha (fun _ => N.bind ihv (fun _ => N.value (ops.stringSubscript _ _ _ _)))) (Nat.add_assoc _ _ _).symm
  · intro used value start st iha ihb ihv; unfold evalExpr
    exact N.cast (N.bind iha (fun _ => N.bind ihb (fun _ => N.bind ihv (fun _ => N.value (ops.stringSubscript _ _ _ _)))))
      (by simp only [opCount]; omega)
  · intro used x ih; unfold evalExpr; exact ih
  · intro used name rets args ih; unfold evalExpr
    refine N.bind ih (fun _ => N.bind (k := 0) (ops.funcCall _ _ _ _) (fun vs => ?_))
    split
    · exact N.fail 0 _
    · exact N.pure _
  · intro used name args next ih; unfold evalExpr
    exact N.cast (N.bind ih (fun _ => ops.appCall _ _)) (by cases next <;> simp only [opCount, chainCount])
  · intro used dt vals ih; unfold evalExpr
    exact N.bind ih (fun _ => N.value (ops.sliceInstantiation _ _))
  · intro used; unfold evalExpr; exact N.value (ops.input _ _)
  · intro used x ih; unfold evalExpr
    exact N.bind ih (fun _ => N.value (ops.input _ _))
  · intro used dst src ih; unfold evalExpr
    exact N.bind ih (fun _ => N.value (ops.copy _ _ _ _))
  · intro used x ih; unfold evalExpr; exact N.bind ih (fun _ => N.pure _)
  · intro used x ih; unfold evalExpr
    exact N.bind ih (fun _ => N.value (ops.exists_ _ _))
  · intro used x ih; unfold evalExpr
    refine N.bind (k := 1) ih (fun _ => ?_)
    split
    · exact N.value (ops.stringLen _ _)
    · exact N.value (ops.sliceLen _ _)
  · intro used path h; unfold evalExpr; rw [if_pos h]; exact N.fail _ _
  · intro used path h ih; unfold evalExpr; rw [if_neg h]
    exact N.bind ih (fun _ => N.value (ops.readFile _ _))
  · intro used path data append; unfold evalExpr; exact N.fail _ _
  · intro used w; unfold evalExpr; exact N.fail _ _
  · intro name args nx iha ihn; unfold evalAppChain
    exact N.bind iha (fun _ => N.bind ihn (fun _ => N.pure _))
  · intro name args iha; unfold evalAppChain
    exact N.bind iha (fun _ => N.pure _)
  · intro e h1 h2; rw [evalAppChain.eq_3 _ e h1 h2, chainCount.eq_3 e h2 h1]; exact N.pure _
  · unfold evalArgs; exact N.pure _
  · intro e rest ihe ihr; unfold evalArgs
    exact N.bind ihe (fun _ => N.bind ihr (fun _ => N.pure _))

def Closed.counted {σ : Type} (C : Closed σ) : Counted σ where
  P := fun _ m => C.P m
  pure := C.pure
  bind := C.bind _ _
  fail := fun _ => C.fail

section
variable {σ : Type} (C : Closed σ) (cv : Conv σ) (ops : ExprOps C cv)
include ops

theorem exprWalk_closed :
    (∀ e used, C.P (evalExpr cv e used)) ∧ (∀ e, C.P (evalAppChain cv e)) ∧ ∀ es, C.P (evalArgs cv es) :=
  exprWalk_counted C.counted cv { ops with }

theorem evalExpr_closed (e : Expr) (used : Bool) : C.P (evalExpr cv e used) := (exprWalk_closed C cv ops).1 e used

theorem evalArgs_closed (es : List Expr) : C.P (evalArgs cv es) := (exprWalk_closed C cv ops).2.2 es

theorem evalAppChain_closed (e : Expr) : C.P (evalAppChain cv e) := (exprWalk_closed C cv ops).2.1 e

theorem evalAll_closed (es : List Expr) : C.P (evalAll cv es) := by
  induction es with
  | nil => unfold evalAll; exact C.pure _
  | cons e rest ih =>
    unfold evalAll
    exact C.bind _ _ (evalExpr_closed C cv ops e true) (fun _ => C.bind _ _ ih (fun _ => C.pure _))

theorem defaultValue_closed (vt : ValueType) : C.P (defaultValue cv vt) := by
  unfold defaultValue
  split
  · exact C.pure _
  · exact C.pure _
  · exact ops.stringToString _
  · exact C.fail _

theorem storeValues_closed (vars : List Var) (vals : List String) : C.P (storeValues cv vars vals) := by
  induction vars generalizing vals with
  | nil => unfold storeValues; exact C.pure _
  | cons x xs ih =>
    cases vals with
    | nil => unfold storeValues; exact C.pure _
    | cons v vs => unfold storeValues; exact C.bind _ _ (ops.varDefinition _ _ _) (fun _ => ih vs)

theorem evalAppend_closed (a : Option Expr) : C.P (evalAppend cv a) := by
  unfold evalAppend
  split
  · exact C.pure _
  · split
    · exact C.fail _
    · exact C.bind _ _ (evalExpr_closed C cv ops _ true) (fun _ => C.pure _)

/-- holds of every predicate of the form "if it succeeds then …" -/
def PanicOK : Prop := ∀ {α : Type} (m : String), C.P (Tr.panic m : EM σ α)

theorem assignedValues_closed (hp : PanicOK C) (count : Nat) :
    ∀ (vals : List Expr) (n i : Nat), C.P (assignedValues cv count vals n i) := by
  intro vals n
  induction n generalizing vals with
  | zero => intro i; unfold assignedValues; exact C.pure _
  | succ n ih =>
    intro i
    cases vals with
    | nil => unfold assignedValues; exact hp _
    | cons e rest =>
      unfold assignedValues
      refine C.bind _ _ (evalExpr_closed C cv ops e true) (fun _ => C.bind _ _ ?_ (fun _ => C.bind _ _ (ih rest (i + 1)) (fun _ => C.pure _)))
      split
      · exact C.bind _ _ (ops.varDefinition _ _ _) (fun _ => ops.varEvaluation _ _ _)
      · exact C.pure _

theorem assignValues_closed (hp : PanicOK C) (vars : List Var) (vals : List Expr) : C.P (assignValues cv vars vals) := by
  unfold assignValues
  exact C.bind _ _ (assignedValues_closed C cv ops hp _ _ _ _) (fun _ => storeValues_closed C cv ops _ _)

theorem assignCallValues_closed (vars : List Var) (call : Expr) : C.P (assignCallValues cv vars call) := by
  unfold assignCallValues
  refine C.bind _ _ (evalExpr_closed C cv ops call true) (fun _ => ?_)
  split
  · exact C.fail _
  · exact storeValues_closed C cv ops _ _

theorem evalConds_closed (elifs : List (Expr × List Stmt)) : C.P (evalConds cv elifs) := by
  induction elifs with
  | nil => unfold evalConds; exact C.pure _
  | cons e rest ih =>
    unfold evalConds
    exact C.bind _ _ (evalExpr_closed C cv ops e.1 true) (fun _ => C.bind _ _ ih (fun _ => C.pure _))

end

theorem evalConds_length {σ : Type} (cv : Conv σ) : ∀ (elifs : List (Expr × List Stmt)) (s s' : σ) (cs : List String),
    evalConds cv elifs s = .ok (cs, s') → cs.length = elifs.length
  | [], s, s', cs, h => by unfold evalConds at h; rw [(EM.pure_ok h).1]; rfl
  | _ :: rest, s, s', cs, h => by
    unfold evalConds at h
    obtain ⟨_, _, _, h⟩ := EM.bind_ok h
    obtain ⟨rs, _, hr, h⟩ := EM.bind_ok h
    rw [(EM.pure_ok h).1, List.length_cons, List.length_cons, evalConds_length cv rest _ _ rs hr]

structure Graded (σ : Type) where
  P : {α : Type} → Int → EM σ α → Prop
  pure : ∀ {α : Type} (a : α), P 0 (Pure.pure a : EM σ α)
  bind : ∀ {α β : Type} {j k : Int} (x : EM σ α) (f : α → EM σ β), P j x → (∀ a, P k (f a)) → P (j + k) (x >>= f)
  fail : ∀ {α : Type} (k : Int) (m : String), P k (fail m : EM σ α)
  panic : ∀ {α : Type} (k : Int) (m : String), P k (Tr.panic m : EM σ α)

def Graded.zero {σ : Type} (G : Graded σ) : Closed σ where
  P := fun m => G.P 0 m
  pure := G.pure
  bind := fun x f hx hf => by have := G.bind x f hx hf; simpa using this
  fail := G.fail 0

structure Weights where
  ifStart : Int
  ifEnd : Int
  elseIfStart : Int
  elseIfEnd : Int
  elseStart : Int
  elseEnd : Int
  forStart : Int
  forIncrementStart : Int
  forIncrementEnd : Int
  forCondition : Int
  forEnd : Int
  funcStart : Int
  funcEnd : Int

structure Weights.Balanced (w : Weights) : Prop where
  if_ : w.ifStart + w.ifEnd = 0
  elif : w.elseIfStart + w.elseIfEnd = 0
  else_ : w.elseStart + w.elseEnd = 0
  incr : w.forIncrementStart + w.forIncrementEnd = 0
  for_ : w.forStart + w.forCondition + w.forEnd = 0
  func : w.funcStart + w.funcEnd = 0

structure GStmtOps {σ : Type} (G : Graded σ) (cv : Conv σ) (w : Weights) : Prop where
  sliceAssignment : ∀ n i v d g, G.P 0 (cv.sliceAssignment n i v d g)
  funcStart : ∀ n ps, G.P w.funcStart (cv.funcStart n ps)
  funcEnd : G.P w.funcEnd cv.funcEnd
  ret : ∀ vs, G.P 0 (cv.ret vs)
  ifStart : ∀ c, G.P w.ifStart (cv.ifStart c)
  ifEnd : G.P w.ifEnd cv.ifEnd
  elseIfStart : ∀ c, G.P w.elseIfStart (cv.elseIfStart c)
  elseIfEnd : G.P w.elseIfEnd cv.elseIfEnd
  elseStart : G.P w.elseStart cv.elseStart
  elseEnd : G.P w.elseEnd cv.elseEnd
  forStart : G.P w.forStart cv.forStart
  forIncrementStart : G.P w.forIncrementStart cv.forIncrementStart
  forIncrementEnd : G.P w.forIncrementEnd cv.forIncrementEnd
  forCondition : ∀ c, G.P w.forCondition (cv.forCondition c)
  forEnd : G.P w.forEnd cv.forEnd
  brk : G.P 0 cv.brk
  cont : G.P 0 cv.cont
  print : ∀ vs, G.P 0 (cv.print vs)
  panic : ∀ v, G.P 0 (cv.panic v)
  writeFile : ∀ p c a, G.P 0 (cv.writeFile p c a)
  nop : G.P 0 cv.nop

theorem Graded.cast {σ α : Type} (G : Graded σ) {j k : Int} {m : EM σ α} (h : G.P j m) (e : j = k) : G.P k m := e ▸ h

section
variable {σ : Type} (G : Graded σ) (cv : Conv σ) (ops : ExprOps G.zero cv) (w : Weights) (hb : w.Balanced) (sops : GStmtOps G cv w)
include ops hb sops

theorem stmtWalk_graded :
    (∀ st, G.P 0 (evalStmt cv st)) ∧ (∀ incr, G.P 0 (evalIncr cv incr)) ∧ (∀ init, G.P 0 (evalInit cv init)) ∧
    (∀ els, G.P 0 (evalElse cv els)) ∧ (∀ body, G.P 0 (evalStmts cv body)) ∧
    (∀ elifs conds, G.P 0 (evalElifs cv elifs conds)) ∧ ∀ body, G.P 0 (evalBlock cv body) := by
  have hp : PanicOK G.zero := fun m => G.panic 0 m
  apply evalStmt.mutual_induct
  · intro vars vals; unfold evalStmt; exact assignValues_closed G.zero cv ops hp _ _
  · intro vars vals; unfold evalStmt; exact assignValues_closed G.zero cv ops hp _ _
  · intro vars call; unfold evalStmt; exact assignCallValues_closed G.zero cv ops _ _
  · intro vars call; unfold evalStmt; exact assignCallValues_closed G.zero cv ops _ _
  · intro v index value; unfold evalStmt
    exact G.zero.bind _ _ (evalExpr_closed G.zero cv ops index true) (fun _ => G.zero.bind _ _ (evalExpr_closed G.zero cv ops value true) (fun _ =>
      G.zero.bind _ _ (defaultValue_closed G.zero cv ops _) (fun _ => sops.sliceAssignment _ _ _ _ _)))
  · intro name pub rets params body ihb; unfold evalStmt
    exact G.cast (G.bind _ _ (sops.funcStart _ _) (fun _ => G.bind _ _ ihb (fun _ => sops.funcEnd)))
      (by have := hb.func; omega)
  · intro vals; unfold evalStmt; exact G.zero.bind _ _ (evalArgs_closed G.zero cv ops vals) (fun _ => sops.ret _)
  · intro cond body elifs els ihb ihe ihl; unfold evalStmt
    exact G.cast (G.bind _ _ (evalExpr_closed G.zero cv ops cond true) (fun _ => G.bind _ _ (evalConds_closed G.zero cv ops elifs) (fun _ =>
      G.bind _ _ (sops.ifStart _) (fun _ => G.bind _ _ ihb (fun _ =>
        G.bind _ _ (ihe _) (fun _ => G.bind _ _ ihl (fun _ => sops.ifEnd)))))))
      (by have := hb.if_; omega)
  · intro init cond incr body ihi ihn ihb; unfold evalStmt
    exact G.cast (G.bind _ _ ihi (fun _ => G.bind _ _ sops.forStart (fun _ => G.bind _ _ ihn (fun _ =>
      G.bind _ _ (evalExpr_closed G.zero cv ops cond true) (fun _ => G.bind _ _ (sops.forCondition _) (fun _ =>
        G.bind _ _ ihb (fun _ => sops.forEnd)))))))
      (by have := hb.for_; omega)
  · unfold evalStmt; exact sops.brk
  · unfold evalStmt; exact sops.cont
  · intro es; unfold evalStmt; exact G.zero.bind _ _ (evalAll_closed G.zero cv ops es) (fun _ => sops.print _)
  · intro e; unfold evalStmt; exact G.zero.bind _ _ (evalExpr_closed G.zero cv ops e true) (fun _ => sops.panic _)
  · intro path data append h; unfold evalStmt; rw [if_pos h]; exact G.fail 0 _
  · intro path data append h; unfold evalStmt; rw [if_neg h]
    refine G.zero.bind _ _ (evalExpr_closed G.zero cv ops path true) (fun _ => ?_)
    split
    · exact G.fail 0 _
    · exact G.zero.bind _ _ (evalExpr_closed G.zero cv ops data true) (fun _ =>
        G.zero.bind _ _ (evalAppend_closed G.zero cv ops append) (fun _ => sops.writeFile _ _ _))
  · intro e h; rw [evalStmt.eq_15 cv e h]
    exact G.zero.bind _ _ (evalExpr_closed G.zero cv ops e false) (fun _ => G.pure _)
  · unfold evalElse; exact G.pure _
  · intro s rest ihs ihr; unfold evalElse
    exact G.cast (G.bind _ _ sops.elseStart (fun _ => G.bind _ _ ihs (fun _ => G.bind _ _ ihr (fun _ => sops.elseEnd))))
      (by have := hb.else_; omega)
  · unfold evalStmts; exact G.pure _
  · intro s rest ihs ihr; unfold evalStmts; exact G.zero.bind _ _ ihs (fun _ => ihr)
  · unfold evalBlock; exact sops.nop
  · intro s rest ihs ihr; unfold evalBlock; exact G.zero.bind _ _ ihs (fun _ => ihr)
  · intro c body rest cd cs ihb ihr; unfold evalElifs
    exact G.cast (G.bind _ _ (sops.elseIfStart _) (fun _ => G.bind _ _ ihb (fun _ => G.bind _ _ sops.elseIfEnd (fun _ => ihr))))
      (by have := hb.elif; omega)
  · intro elifs conds h; rw [evalElifs.eq_2 cv elifs conds h]; exact G.pure _
  · intro i ih; unfold evalIncr
    exact G.cast (G.bind _ _ sops.forIncrementStart (fun _ => G.bind _ _ ih (fun _ => sops.forIncrementEnd)))
      (by have := hb.incr; omega)
  · unfold evalIncr; exact G.pure _
  · intro i ih; unfold evalInit; exact ih
  · unfold evalInit; exact G.pure _

theorem evalStmt_graded (st : Stmt) : G.P 0 (evalStmt cv st) := (stmtWalk_graded G cv ops w hb sops).1 st

theorem evalInit_graded (init : Option Stmt) : G.P 0 (evalInit cv init) := (stmtWalk_graded G cv ops w hb sops).2.2.1 init

theorem evalIncr_graded (incr : Option Stmt) : G.P 0 (evalIncr cv incr) := (stmtWalk_graded G cv ops w hb sops).2.1 incr

theorem evalElse_graded (els : List Stmt) : G.P 0 (evalElse cv els) := (stmtWalk_graded G cv ops w hb sops).2.2.2.1 els

theorem evalBlock_graded (body : List Stmt) : G.P 0 (evalBlock cv body) := (stmtWalk_graded G cv ops w hb sops).2.2.2.2.2.2 body

theorem evalStmts_graded (body : List Stmt) : G.P 0 (evalStmts cv body) := (stmtWalk_graded G cv ops w hb sops).2.2.2.2.1 body

theorem evalElifs_graded (elifs : List (Expr × List Stmt)) (conds : List String) : G.P 0 (evalElifs cv elifs conds) :=
  (stmtWalk_graded G cv ops w hb sops).2.2.2.2.2.1 elifs conds

end

structure StmtOps {σ : Type} (C : Closed σ) (cv : Conv σ) : Prop where
  sliceAssignment : ∀ n i v d g, C.P (cv.sliceAssignment n i v d g)
  funcStart : ∀ n ps, C.P (cv.funcStart n ps)
  funcEnd : C.P cv.funcEnd
  ret : ∀ vs, C.P (cv.ret vs)
  ifStart : ∀ c, C.P (cv.ifStart c)
  ifEnd : C.P cv.ifEnd
  elseIfStart : ∀ c, C.P (cv.elseIfStart c)
  elseIfEnd : C.P cv.elseIfEnd
  elseStart : C.P cv.elseStart
  elseEnd : C.P cv.elseEnd
  forStart : C.P cv.forStart
  forIncrementStart : C.P cv.forIncrementStart
  forIncrementEnd : C.P cv.forIncrementEnd
  forCondition : ∀ c, C.P (cv.forCondition c)
  forEnd : C.P cv.forEnd
  brk : C.P cv.brk
  cont : C.P cv.cont
  print : ∀ vs, C.P (cv.print vs)
  panic : ∀ v, C.P (cv.panic v)
  writeFile : ∀ p c a, C.P (cv.writeFile p c a)
  nop : C.P cv.nop

def Closed.graded {σ : Type} (C : Closed σ) (hp : PanicOK C) : Graded σ where
  P := fun _ m => C.P m
  pure := C.pure
  bind := C.bind
  fail := fun _ => C.fail
  panic := fun _ => hp

section
variable {σ : Type} (C : Closed σ) (cv : Conv σ) (ops : ExprOps C cv) (sops : StmtOps C cv)
include ops sops

theorem stmtWalk_closed (hp : PanicOK C) :
    (∀ st, C.P (evalStmt cv st)) ∧ (∀ incr, C.P (evalIncr cv incr)) ∧ (∀ init, C.P (evalInit cv init)) ∧
    (∀ els, C.P (evalElse cv els)) ∧ (∀ body, C.P (evalStmts cv body)) ∧
    (∀ elifs conds, C.P (evalElifs cv elifs conds)) ∧ ∀ body, C.P (evalBlock cv body) :=
  stmtWalk_graded (C.graded hp) cv ops ⟨0, 0, 0, 0, 0, 0, 0, 0, 0, 0, 0, 0, 0⟩ ⟨rfl, rfl, rfl, rfl, rfl, rfl⟩ { sops with }

theorem evalStmt_closed (hp : PanicOK C) (st : Stmt) : C.P (evalStmt cv st) :=
  (stmtWalk_closed C cv ops sops hp).1 st

theorem evalInit_closed (hp : PanicOK C) (init : Option Stmt) : C.P (evalInit cv init) :=
  (stmtWalk_closed C cv ops sops hp).2.2.1 init

theorem evalIncr_closed (hp : PanicOK C) (incr : Option Stmt) : C.P (evalIncr cv incr) :=
  (stmtWalk_closed C cv ops sops hp).2.1 incr

theorem evalElse_closed (hp : PanicOK C) (els : List Stmt) : C.P (evalElse cv els) :=
  (stmtWalk_closed C cv ops sops hp).2.2.2.1 els

theorem evalBlock_closed (hp : PanicOK C) (body : List Stmt) : C.P (evalBlock cv body) :=
  (stmtWalk_closed C cv ops sops hp).2.2.2.2.2.2 body

theorem evalStmts_closed (hp : PanicOK C) (body : List Stmt) : C.P (evalStmts cv body) :=
  (stmtWalk_closed C cv ops sops hp).2.2.2.2.1 body

theorem evalElifs_closed (hp : PanicOK C) (elifs : List (Expr × List Stmt)) (conds : List String) : C.P (evalElifs cv elifs conds) :=
  (stmtWalk_closed C cv ops sops hp).2.2.2.2.2.1 elifs conds

end

end Tsh.Tr
