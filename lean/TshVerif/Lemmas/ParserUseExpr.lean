/-
  Every variable used is a visible one, in expressions: the visibility pass as an instance of the expression walk.
-/
import TshVerif.Lemmas.ParserExprWalk
namespace Tsh.Parser
open Tsh Tsh.Tr Tsh.LexTables

/-- every variable the context knows is in `Γ` -/
def VarsIn (Γ : List Var) (ctx : Ctx) : Prop := ∀ e ∈ ctx.vars, e.2 ∈ Γ

def useP (Γ : List Var) (e : Expr) : Prop := PT.useE Γ e = true
def usesP (Γ : List Var) (es : List Expr) : Prop := PT.useEs Γ es = true

theorem useP.out {Γ : List Var} {e : Expr} (h : useP Γ e) : PT.useE Γ e = true := h

theorem findVar_in {Γ : List Var} {ctx : Ctx} {name pfx : String} {g : Bool} {v : Var} (hc : VarsIn Γ ctx)
    (h : ctx.findVar name pfx g = some v) : v ∈ Γ := by
  obtain ⟨e, he, rfl⟩ := findVar_mem h
  exact hc e he

variable {Γ : List Var}

theorem useRule (Γ : List Var) : ExprRule (VarsIn Γ) (useP Γ) (usesP Γ) (fun _ => usesP Γ) where
  nil := rfl
  cons he hes := band_true he hes
  uncons h := Bool.and_eq_true_iff.mp h
  var hc hv := by simpa [useP, PT.useE] using findVar_in hc hv
  argsNil := rfl
  argsSnoc _ hs _ _ := hs
  args ha := ha
  call _ _ ha _ := ha
  app ha := ha
  appPipe ha hn _ := band_true ha hn
  boolLit := rfl
  intLit := rfl
  strLit := rfl
  group h := h
  inputNone := rfl
  input h _ := h
  read h _ := h
  itoa h _ := h
  exists_ h _ := h
  len h _ := h
  copy hv h _ _ := band_true hv h
  unary h _ := h
  binary hl hr _ _ := band_true hl hr
  compare hl hr _ _ := band_true hl hr
  logical hl hr _ _ _ := band_true hl hr
  sliceNew _ hv _ := hv
  sliceEval hv hi _ _ := band_true hv hi
  substr hv ha _ _ := band_true hv ha
  substrTo hv ha hb _ _ _ := band_true (band_true hv ha) hb

structure UseIH (Γ : List Var) (fuel : Nat) : Prop where
  values : ∀ ctx first, VarsIn Γ ctx → PostOk (evalValues fuel ctx first) (usesP Γ)
  builtinArgs : ∀ ctx, VarsIn Γ ctx → PostOk (evalBuiltinArgs fuel ctx) (usesP Γ)
  builtin : ∀ ctx tt mn mx, VarsIn Γ ctx → PostOk (evalBuiltin fuel ctx tt mn mx) (usesP Γ)
  arguments : ∀ ctx ps, VarsIn Γ ctx → PostOk (evalArguments fuel ctx ps) (usesP Γ)
  argLoop : ∀ ctx ps acc, VarsIn Γ ctx → usesP Γ acc → PostOk (evalArgLoop fuel ctx ps acc) (usesP Γ)
  argTail : ∀ ctx ps acc, VarsIn Γ ctx → usesP Γ acc → PostOk (evalArgTail fuel ctx ps acc) (usesP Γ)
  functionCall : ∀ ctx, VarsIn Γ ctx → PostOk (evalFunctionCall fuel ctx) (useP Γ)
  appCall : ∀ ctx, VarsIn Γ ctx → PostOk (evalAppCall fuel ctx) (useP Γ)
  sliceInst : ∀ ctx, VarsIn Γ ctx → PostOk (evalSliceInstantiation fuel ctx) (useP Γ)
  sliceElems : ∀ ctx dt, VarsIn Γ ctx → PostOk (evalSliceElems fuel ctx dt) (usesP Γ)
  subscript : ∀ ctx, VarsIn Γ ctx → PostOk (evalSubscript fuel ctx) (useP Γ)
  single : ∀ ctx, VarsIn Γ ctx → PostOk (evalSingle fuel ctx) (useP Γ)
  unary : ∀ ctx, VarsIn Γ ctx → PostOk (evalUnary fuel ctx) (useP Γ)
  binary : ∀ ctx lv, VarsIn Γ ctx → PostOk (evalBinary fuel ctx lv) (useP Γ)
  binaryLoop : ∀ ctx lv l, VarsIn Γ ctx → useP Γ l → PostOk (evalBinaryLoop fuel ctx lv l) (useP Γ)
  comparison : ∀ ctx, VarsIn Γ ctx → PostOk (evalComparison fuel ctx) (useP Γ)
  logical : ∀ ctx lv, VarsIn Γ ctx → PostOk (evalLogical fuel ctx lv) (useP Γ)
  logicalLoop : ∀ ctx lv l, VarsIn Γ ctx → useP Γ l → PostOk (evalLogicalLoop fuel ctx lv l) (useP Γ)
  expression : ∀ ctx, VarsIn Γ ctx → PostOk (evalExpression fuel ctx) (useP Γ)

theorem useIH_all (Γ : List Var) (fuel : Nat) : UseIH Γ fuel :=
  have w := exprWalk (useRule Γ) fuel
  { values := fun ctx first hc => PostOk.mono (w.values ctx first hc).ok fun _ h => h.1
    builtinArgs := fun ctx hc => PostOk.mono (w.builtinArgs ctx hc).ok fun _ h => h.1
    builtin := fun ctx tt mn mx hc => PostOk.mono (w.builtin ctx tt mn mx hc).ok fun _ h => h.1.1
    arguments := fun ctx ps hc => PostOk.mono (w.arguments ctx ps hc).ok fun _ h => h.1
    argLoop := fun ctx ps acc hc ha => (w.argLoop ctx ps acc hc ha).ok
    argTail := fun ctx ps acc hc ha => (w.argTail ctx ps acc hc ha).ok
    functionCall := fun ctx hc => (w.functionCall ctx hc).ok
    appCall := fun ctx hc => PostOk.mono (w.appCall ctx hc).ok fun _ h => h.1
    sliceInst := fun ctx hc => (w.sliceInst ctx hc).ok
    sliceElems := fun ctx dt hc => PostOk.mono (w.sliceElems ctx dt hc).ok fun _ h => h.1
    subscript := fun ctx hc => (w.subscript ctx hc).ok
    single := fun ctx hc => (w.single ctx hc).ok
    unary := fun ctx hc => (w.unary ctx hc).ok
    binary := fun ctx lv hc => (w.binary ctx lv hc).ok
    binaryLoop := fun ctx lv l hc hl => (w.binaryLoop ctx lv l hc hl).ok
    comparison := fun ctx hc => (w.comparison ctx hc).ok
    logical := fun ctx lv hc => (w.logical ctx lv hc).ok
    logicalLoop := fun ctx lv l hc hl => (w.logicalLoop ctx lv l hc hl).ok
    expression := fun ctx hc => (w.expression ctx hc).ok }

end Tsh.Parser
