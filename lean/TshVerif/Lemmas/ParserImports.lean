/-
  The import loop, for every pass: an invariant of (context, collected statements) that one imported file keeps holds of what
  `evaluateImports` returns (`importLoop_inv`, `evalImports_inv`), in terms of `Good`.  `registerImported` is a
  fold of `regStep`; `regStep_spec` says what one step does.
-/
import TshVerif.Lemmas.ParserLeaves
namespace Tsh.Parser
open Tsh Tsh.Tr Tsh.LexTables

theorem skipNL_eq : ∀ fuel, skipNL fuel = skipNewlines fuel
  | 0 => rfl
  | fuel + 1 => by unfold skipNL skipNewlines; rw [skipNL_eq fuel]

theorem skipNL_any (fuel : Nat) : Post (skipNL fuel) (fun _ => True) := skipNL_eq fuel ▸ skipNewlines_any fuel

theorem evalImport_any : Post evalImport (fun _ => True) := by
  unfold evalImport
  refine Post.bindAny fun t => Post.bindAny ?_ (hm := Post.branch (Post.bindAny fun n => Post.pure' trivial) (Post.pure' trivial))
  rintro ⟨alias, t2⟩
  refine Post.guard fun _ => Post.bindAny fun n => Post.guard fun _ => ?_
  exact Post.branch (Post.bindAny fun _ => Post.pure' trivial) (Post.pure' trivial)

def regVar (a : Ctx × Bool) (v : Var) : Ctx × Bool :=
  let e := (assocGet a.1.vars v.name).isSome
  (if !e && v.pub then { a.1 with vars := assocSet a.1.vars v.name v } else a.1, a.2 && e)

def regStep (acc : Ctx × List Stmt) (st : Stmt) : Ctx × List Stmt :=
  let (ctx, out) := acc
  match st with
  | .varDef vars _ =>
    let (ctx, ex) := vars.foldl regVar (ctx, true)
    (ctx, if ex then out else out ++ [st])
  | .funcDef name pub rets params _ =>
    let e := (assocGet ctx.funcs name).isSome
    (if !e && pub then { ctx with funcs := assocSet ctx.funcs name ⟨name, rets, params, pub⟩ } else ctx,
     if e then out else out ++ [st])
  | _ => (ctx, out ++ [st])

theorem varFold_spec (vs : List Var) (c : Ctx) :
    ∃ vars, (vs.foldl regVar (c, true)).1 = { c with vars := vars } ∧
      (∀ e ∈ vars, e ∈ c.vars ∨ (e.2 ∈ vs ∧ e.2.pub = true)) ∧
      ((vs.foldl regVar (c, true)).2 = true → vars = c.vars) := by
  refine List.foldlRecOn (motive := fun a => ∃ vars, a.1 = { c with vars := vars } ∧
    (∀ e ∈ vars, e ∈ c.vars ∨ (e.2 ∈ vs ∧ e.2.pub = true)) ∧ (a.2 = true → vars = c.vars)) vs regVar
    (b := (c, true)) ⟨_, rfl, fun _ h => .inl h, fun _ => rfl⟩ ?_
  rintro ⟨c', ex⟩ ⟨vars, rfl, h1, h2⟩ v hv
  unfold regVar
  dsimp only
  split
  · rename_i hcond
    simp only [Bool.and_eq_true, Bool.not_eq_true'] at hcond
    refine ⟨_, rfl, fun e he => (assocSet_mem he).elim (h1 e) fun e' => .inr (e' ▸ ⟨hv, hcond.2⟩), fun h => ?_⟩
    simp [hcond.1] at h
  · exact ⟨vars, rfl, h1, fun h => h2 (by simp only [Bool.and_eq_true] at h; exact h.1)⟩

/-- an imported statement is dropped, with no effect, if all it defines is known already; otherwise it is kept and its public
    definitions enter the context -/
theorem regStep_spec (acc : Ctx × List Stmt) (st : Stmt) :
    regStep acc st = acc ∨ ((regStep acc st).2 = acc.2 ++ [st] ∧ Enters st acc.1 (regStep acc st).1 ∧
      (∀ e ∈ (regStep acc st).1.vars, e ∈ acc.1.vars ∨ e.2.pub = true) ∧
      ∀ e ∈ (regStep acc st).1.funcs, e ∈ acc.1.funcs ∨ e.2.pub = true) := by
  obtain ⟨ctx, out⟩ := acc
  unfold regStep
  dsimp only
  split
  · rename_i vars vals
    obtain ⟨vs', e, h1, h2⟩ := varFold_spec vars ctx
    dsimp only
    split
    · exact .inl (by rw [e, h2 ‹_›])
    · rw [e]
      exact .inr ⟨rfl, ⟨vs', ctx.funcs, rfl, fun e he => (h1 e he).imp_right (·.1), fun _ h => .inl h⟩,
        fun e he => (h1 e he).imp_right (·.2), fun _ h => .inl h⟩
  · rename_i name pub rets params body
    dsimp only
    cases he : (assocGet ctx.funcs name).isSome with
    | true => exact .inl rfl
    | false =>
      cases pub with
      | true =>
        have hf : ∀ e ∈ assocSet ctx.funcs name ⟨name, rets, params, true⟩, e ∈ ctx.funcs ∨ e.2 = ⟨name, rets, params, true⟩ :=
          fun e h => (assocSet_mem h).imp_right fun e' => by rw [e']
        exact .inr ⟨rfl, ⟨ctx.vars, _, rfl, fun _ h => .inl h, fun e h => (hf e h).imp_right fun e' => ⟨_, _, _, _, _, rfl, e'⟩⟩,
          fun _ h => .inl h, fun e h => (hf e h).imp_right fun e' => by rw [e']⟩
      | false => exact .inr ⟨rfl, ⟨ctx.vars, ctx.funcs, rfl, fun _ h => .inl h, fun _ h => .inl h⟩, fun _ h => .inl h, fun _ h => .inl h⟩
  · exact .inr ⟨rfl, ⟨ctx.vars, ctx.funcs, rfl, fun _ h => .inl h, fun _ h => .inl h⟩, fun _ h => .inl h, fun _ h => .inl h⟩

theorem importLoop_inv {depth : Nat} {F : Parsed → Prop} {I : Ctx → List Stmt → Prop} (fs : FileSys) (path : String)
    (importing : List String) (multiple : Bool)
    (hfile : ∀ abs, Good (parseFile depth fs abs true (importing ++ [path])) F)
    (hstep : ∀ ctx acc alias p, I ctx acc → F p → I { ctx with imports := assocSet ctx.imports alias p.pfx } (acc ++ p.body)) :
    ∀ (fuel : Nat) (ctx : Ctx) (acc : List Stmt) (s0 : PSt), I ctx acc →
      Good (importLoop depth fs path importing fuel multiple ctx acc s0) (fun r => I r.1 r.2) := by
  intro fuel
  induction fuel with
  | zero => intro ctx acc s0 _; unfold importLoop; trivial
  | succ fuel ih =>
    intro ctx acc s0 hI
    unfold importLoop
    have hskip : ∀ s, Good (if multiple = true then skipNL fuel s else PRes.ok () s) (fun _ => True) :=
      fun s => Good.ite (fun _ => (skipNL_any fuel).good s) fun _ => trivial
    have h1 := hskip s0
    generalize (if multiple = true then skipNL fuel _ else PRes.ok () _) = r1 at h1 ⊢
    apply h1.elim; rintro _ s1 _
    dsimp only
    have h2 := evalImport_any.good s1
    generalize evalImport s1 = r2 at h2 ⊢
    apply h2.elim; rintro ⟨alias0, ipath⟩ s2 _
    dsimp only
    split
    · trivial
    rename_i abs alias _
    have h3 := hfile abs
    generalize parseFile _ _ _ _ _ = r3 at h3 ⊢
    apply h3.elim; rintro parsed _ h3
    have hI' := hstep ctx acc alias parsed hI h3
    refine Good.ite (fun _ => trivial) fun _ => ?_
    have h4 := hskip { s2 with usedFuncs := mergeUsed s2.usedFuncs parsed.usedFuncs }
    generalize (if multiple = true then skipNL fuel _ else PRes.ok () _) = r4 at h4 ⊢
    apply h4.elim; rintro _ s4 _
    refine Good.ite (fun _ => hI') fun _ => Good.ite (fun _ => hI') fun _ => Good.ite (fun _ => ih _ _ _ hI') fun _ => trivial

theorem evalImports_inv {depth : Nat} {F : Parsed → Prop} {I : Ctx → List Stmt → Prop} {J : Ctx × List Stmt → Prop}
    (fs : FileSys) (path : String) (importing : List String) (fuel : Nat) (ctx : Ctx) (s0 : PSt)
    (hfile : ∀ abs, Good (parseFile depth fs abs true (importing ++ [path])) F)
    (hstep : ∀ ctx acc alias p, I ctx acc → F p → I { ctx with imports := assocSet ctx.imports alias p.pfx } (acc ++ p.body))
    (h0 : I ctx []) (hnone : J (ctx, [])) (hreg : ∀ c stmts, I c stmts → J (registerImported c stmts)) :
    Good (evalImports depth fs path importing fuel ctx s0) J := by
  unfold evalImports
  have h1 := (skipNL_any fuel).good s0
  generalize skipNL fuel s0 = r1 at h1 ⊢
  apply h1.elim; rintro _ s1 _
  dsimp only
  have loop : ∀ multiple s, Good (match importLoop depth fs path importing fuel multiple ctx [] s with
      | .ok (ctx, stmts) s' => .ok (registerImported ctx stmts) s'
      | .error => .error
      | .panic => .panic
      | .diverge => .diverge) J := by
    intro multiple s
    have h2 := importLoop_inv fs path importing multiple hfile hstep fuel ctx [] s h0
    generalize importLoop _ _ _ _ _ _ _ _ _ = r2 at h2 ⊢
    apply h2.elim; rintro ⟨c, stmts⟩ _ h
    exact hreg c stmts h
  refine Good.ite (fun _ => hnone) fun _ => Good.ite (fun _ => Good.ite (fun _ => trivial) fun _ => loop _ _) fun _ => loop _ _

end Tsh.Parser
