/-
  The Batch target as a `Sem.Target` (`batchT`: the Batch converter, the cmd model `Sem/Cmd`, `Adv` of `Lemmas/BatchRun`), and what
  the lines of the operations do in the cmd model (`stepB_*`).
-/
import TshVerif.Lemmas.BatchRun
import TshVerif.Lemmas.SemBScan
import TshVerif.Lemmas.SemTarget
namespace Tsh.SemB
open Tsh Tsh.Tr Tsh.Batch Tsh.Sem

/-- `batchT.Holds`, unfolded -/
def HoldsD (t v : String) (k : Nat) (ρ : Store) : Prop :=
  ∀ ρ', (∀ x, (∀ j, k ≤ j → x ≠ helperName j) → ρ' x = ρ x) → CompleteD ρ' t.toList v.toList

theorem stepB_setC {t v : String} {ρ : Store} (out : List String) (x : String) (h : CompleteD ρ t.toList v.toList) :
    stepB (.set x t) ⟨ρ, out⟩ = some (.normal, ⟨ρ.set x v, out⟩) := by
  simp only [stepB, h.toExpand]

@[reducible] def batchT : Target where
  Line := BLine
  σ := St
  cv := conv
  step := stepB
  Complete := CompleteD
  ref x := "!" ++ x ++ "!"
  setLine := .set
  top s := s.funcs = []
  cnt s := s.varCounter
  Adv := Adv
  complete_nil := CompleteD.nil
  complete_append := CompleteD.append
  complete_ref := completeD_var
  complete_bool := completeD_bool
  complete_int := completeD_int
  step_set x out h := stepB_setC out x h
  adv_refl := Adv.refl
  adv_trans := Adv.trans
  adv_cnt := Adv.cnt
  adv_top h := h.funcs_nil

theorem HoldsD.expand {t v : String} {k : Nat} {ρ : Store} (h : HoldsD t v k ρ) : expandD ρ t = some v :=
  (h ρ fun _ _ => rfl).toExpand

theorem helperVar_eqB (k : Nat) : (s!"_h{k}" : String) = helperName k := rfl

theorem expandNum_of_holds {t : String} {n : Int} {k : Nat} {ρ : Store} (h : batchT.Holds t (toString n) k ρ) (hr : readable n = true) :
    expandNum ρ t = some n := by
  simp only [expandNum, HoldsD.expand h, Option.bind]
  exact canonInt_toString n hr

theorem expandNum_bool {t : String} {b : Bool} {k : Nat} {ρ : Store} (h : batchT.Holds t (boolStr b) k ρ) :
    expandNum ρ t = some (if b then 1 else 0) := by
  simp only [expandNum, HoldsD.expand h, Option.bind]
  exact canonInt_boolStr b

theorem expandNum_one (ρ : Store) : expandNum ρ "1" = some 1 := by
  have h : CompleteD ρ ("1" : String).toList ("1" : String).toList := completeD_bool ρ true
  have e : canonInt "1" = some 1 := canonInt_boolStr true
  simp only [expandNum, h.toExpand, Option.bind]
  exact e

theorem stepB_ifNum {tl tr os a b : String} {x y : Int} {v : Bool} {ρ : Store} (h : String)
    (hl : expandNum ρ tl = some x) (hr : expandNum ρ tr = some y) (hv : numIf os x y = some v) (ha : bit a = true) (hb : bit b = true) :
    batchT.Sets (.ifSet "" tl os tr h a b) h (if v then a else b) ρ := by
  intro out
  have q1 : (("" : String) == "\"") = false := by decide
  simp [stepB, evalIf, q1, hl, hr, hv, ha, hb]

theorem stepB_ifStr {tl tr os a b x y : String} {v : Bool} {ρ : Store} (h : String)
    (hl : expandD ρ tl = some x) (hr : expandD ρ tr = some y)
    (hv : (if os == "equ" then some (x == y) else if os == "neq" then some (x != y) else none) = some v)
    (ha : bit a = true) (hb : bit b = true) :
    batchT.Sets (.ifSet "\"" tl os tr h a b) h (if v then a else b) ρ := by
  intro out
  simp only [stepB, evalIf, beq_self_eq_true, if_true, hl, hr, hv, ha, hb, Bool.and_self]

theorem stepB_arith {tl tr op : String} {x y z : Int} {k : Nat} {ρ : Store} (h : String)
    (hl : batchT.Holds tl (toString x) k ρ) (hr : batchT.Holds tr (toString y) k ρ) (rx : readable x = true) (ry : readable y = true)
    (hz : arith32 op x y = some z) :
    batchT.Sets (.setA h tl op tr) h (toString z) ρ := by
  intro out
  simp only [stepB, expandNum_of_holds hl rx, expandNum_of_holds hr ry, hz]

theorem stepB_concat {tl tr x y : String} {k : Nat} {ρ : Store} (h : String)
    (hl : batchT.Holds tl x k ρ) (hr : batchT.Holds tr y k ρ) : batchT.Sets (.set h (tl ++ tr)) h (x ++ y) ρ :=
  fun out => batchT.step_set h out (hl.append hr).here

theorem stepB_and {tl tr : String} {x y : Bool} {k : Nat} {ρ : Store} (h : String)
    (hl : batchT.Holds tl (boolStr x) k ρ) (hr : batchT.Holds tr (boolStr y) k ρ) :
    batchT.Sets (.andSet tl tr h) h (boolStr (x && y)) ρ := by
  intro out
  simp only [stepB, expandNum_bool hl, expandNum_bool hr]
  cases x <;> cases y <;> simp [boolStr]

theorem stepB_or {tl tr : String} {x y : Bool} {k : Nat} {ρ : Store} (h : String)
    (hl : batchT.Holds tl (boolStr x) k ρ) (hr : batchT.Holds tr (boolStr y) k ρ) :
    batchT.Sets (.orSet tl tr h) h (boolStr (x || y)) ρ := by
  intro out
  simp only [stepB, expandNum_bool hl, expandNum_bool hr]
  cases x <;> cases y <;> simp [boolStr]

end Tsh.SemB
