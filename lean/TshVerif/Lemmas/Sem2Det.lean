/-
  The executable interpreter of the bash model with functions (the thing run next to /bin/bash in every check) is sound and, with
  enough fuel, complete for the big-step relation; so the relation, being what a function computes, is deterministic.
-/
import TshVerif.Sem2.Bash
namespace Tsh.Sem2
open Tsh Tsh.Bash Tsh.Sem

theorem exec_sound (fuel : Nat) :
    (∀ x c o c', execCmd fuel x c = some (o, c') → ExecCmd x c o c') ∧
    (∀ xs c o c', execCmds fuel xs c = some (o, c') → ExecCmds xs c o c') ∧
    (∀ es els c o c', execElifs fuel es els c = some (o, c') → ExecElifs es els c o c') ∧
    (∀ body c o c', execLoop fuel body c = some (o, c') → ExecLoop body c o c') := by
  induction fuel with
  | zero =>
    refine ⟨?_, ?_, ?_, ?_⟩ <;> intros <;> contradiction
  | succ f ih =>
    obtain ⟨cmd, cmds, elifs, loop⟩ := ih
    refine ⟨?_, ?_, ?_, ?_⟩
    · intro x c o c' h
      cases x with
      | simple l =>
        cases l with
        | callFn name args =>
          rw [execCmd] at h
          split at h
          · split at h
            · exact .call ‹_› ‹_› (cmds _ _ _ _ ‹_›) h
            · cases h
          · cases h
        | _ => exact .simple rfl h
      | ifc g thn es els =>
        rw [execCmd] at h
        split at h
        · exact .ifTrue ‹_› (cmds _ _ _ _ h)
        · exact .ifFalse ‹_› (elifs _ _ _ _ _ h)
        · cases h
      | loop body => exact .loop (loop _ _ _ _ h)
      | fn name body => cases h; exact .fnDef
    · intro xs c o c' h
      cases xs with
      | nil => cases h; exact .nil
      | cons x xs =>
        rw [execCmds] at h
        split at h
        · exact .cons (cmd _ _ _ _ ‹_›) (cmds _ _ _ _ h)
        · rename_i hr
          exact .stop (cmd _ _ _ _ h) (fun e => hr c' (e ▸ h))
    · intro es els c o c' h
      match es, els with
      | [], none => cases h; exact .none
      | [], some b => exact .els (cmds _ _ _ _ h)
      | (g, b) :: rest, els =>
        rw [execElifs] at h
        split at h
        · exact .hit ‹_› (cmds _ _ _ _ h)
        · exact .miss ‹_› (elifs _ _ _ _ _ h)
        · cases h
    · intro body c o c' h
      rw [execLoop] at h
      split at h
      · exact .next (cmds _ _ _ _ ‹_›) (loop _ _ _ _ h)
      · exact .cont (cmds _ _ _ _ ‹_›) (loop _ _ _ _ h)
      · cases h; exact .brk (cmds _ _ _ _ ‹_›)
      · cases h; exact .ret (cmds _ _ _ _ ‹_›)
      · cases h; exact .exit (cmds _ _ _ _ ‹_›)
      · cases h

theorem execCmd_sound : ∀ (fuel : Nat) (x : Cmd) (c : Cfg) (o : Out) (c' : Cfg), execCmd fuel x c = some (o, c') → ExecCmd x c o c' :=
  fun fuel => (exec_sound fuel).1
theorem execCmds_sound : ∀ (fuel : Nat) (xs : List Cmd) (c : Cfg) (o : Out) (c' : Cfg), execCmds fuel xs c = some (o, c') → ExecCmds xs c o c' :=
  fun fuel => (exec_sound fuel).2.1
theorem execElifs_sound : ∀ (fuel : Nat) (es : List (Line × List Cmd)) (els : Option (List Cmd)) (c : Cfg) (o : Out) (c' : Cfg),
    execElifs fuel es els c = some (o, c') → ExecElifs es els c o c' :=
  fun fuel => (exec_sound fuel).2.2.1
theorem execLoop_sound : ∀ (fuel : Nat) (body : List Cmd) (c : Cfg) (o : Out) (c' : Cfg), execLoop fuel body c = some (o, c') → ExecLoop body c o c' :=
  fun fuel => (exec_sound fuel).2.2.2

/-- induction over the four execution relations at once, for properties that do not depend on the derivation -/
theorem exec_induct {P1 : Cmd → Cfg → Out → Cfg → Prop} {P2 : List Cmd → Cfg → Out → Cfg → Prop}
    {P3 : List (Line × List Cmd) → Option (List Cmd) → Cfg → Out → Cfg → Prop} {P4 : List Cmd → Cfg → Out → Cfg → Prop}
    (simple : ∀ {l c o c'}, isCall l = false → stepSimple l c = some (o, c') → P1 (.simple l) c o c')
    (call : ∀ {name args c body vals o1 c1 o c'}, lookupFun c.funs name = some body → expandList c.ρ args = some vals →
      ExecCmds body { c with args := vals, saved := [] } o1 c1 → callResult c o1 c1 = some (o, c') →
      P2 body { c with args := vals, saved := [] } o1 c1 → P1 (.simple (.callFn name args)) c o c')
    (ifTrue : ∀ {g thn elifs els c o c'}, guard c.ρ g = some true → ExecCmds thn c o c' → P2 thn c o c' → P1 (.ifc g thn elifs els) c o c')
    (ifFalse : ∀ {g thn elifs els c o c'}, guard c.ρ g = some false → ExecElifs elifs els c o c' → P3 elifs els c o c' →
      P1 (.ifc g thn elifs els) c o c')
    (loop : ∀ {body c o c'}, ExecLoop body c o c' → P4 body c o c' → P1 (.loop body) c o c')
    (fnDef : ∀ {name body c}, P1 (.fn name body) c .normal { c with funs := (name, body) :: c.funs })
    (nil : ∀ {c}, P2 [] c .normal c)
    (cons : ∀ {x xs c c1 o c'}, ExecCmd x c .normal c1 → ExecCmds xs c1 o c' → P1 x c .normal c1 → P2 xs c1 o c' → P2 (x :: xs) c o c')
    (stop : ∀ {x xs c o c'}, ExecCmd x c o c' → o ≠ .normal → P1 x c o c' → P2 (x :: xs) c o c')
    (none : ∀ {c}, P3 [] none c .normal c)
    (els : ∀ {b c o c'}, ExecCmds b c o c' → P2 b c o c' → P3 [] (some b) c o c')
    (hit : ∀ {g b rest els c o c'}, guard c.ρ g = some true → ExecCmds b c o c' → P2 b c o c' → P3 ((g, b) :: rest) els c o c')
    (miss : ∀ {g b rest els c o c'}, guard c.ρ g = some false → ExecElifs rest els c o c' → P3 rest els c o c' →
      P3 ((g, b) :: rest) els c o c')
    (next : ∀ {body c c1 o c'}, ExecCmds body c .normal c1 → ExecLoop body c1 o c' → P2 body c .normal c1 → P4 body c1 o c' →
      P4 body c o c')
    (cont : ∀ {body c c1 o c'}, ExecCmds body c .cont c1 → ExecLoop body c1 o c' → P2 body c .cont c1 → P4 body c1 o c' → P4 body c o c')
    (brk : ∀ {body c c'}, ExecCmds body c .brk c' → P2 body c .brk c' → P4 body c .normal c')
    (ret : ∀ {body c c'}, ExecCmds body c .ret c' → P2 body c .ret c' → P4 body c .ret c')
    (exit : ∀ {body c k c'}, ExecCmds body c (.exit k) c' → P2 body c (.exit k) c' → P4 body c (.exit k) c') :
    (∀ {x c o c'}, ExecCmd x c o c' → P1 x c o c') ∧ (∀ {xs c o c'}, ExecCmds xs c o c' → P2 xs c o c') ∧
      (∀ {es els c o c'}, ExecElifs es els c o c' → P3 es els c o c') ∧ (∀ {body c o c'}, ExecLoop body c o c' → P4 body c o c') :=
  ⟨fun h => ExecCmd.rec (motive_1 := fun x c o c' _ => P1 x c o c') (motive_2 := fun xs c o c' _ => P2 xs c o c')
      (motive_3 := fun es els c o c' _ => P3 es els c o c') (motive_4 := fun body c o c' _ => P4 body c o c')
      simple call ifTrue ifFalse loop fnDef nil cons stop none els hit miss next cont brk ret exit h,
   fun h => ExecCmds.rec (motive_1 := fun x c o c' _ => P1 x c o c') (motive_2 := fun xs c o c' _ => P2 xs c o c')
      (motive_3 := fun es els c o c' _ => P3 es els c o c') (motive_4 := fun body c o c' _ => P4 body c o c')
      simple call ifTrue ifFalse loop fnDef nil cons stop none els hit miss next cont brk ret exit h,
   fun h => ExecElifs.rec (motive_1 := fun x c o c' _ => P1 x c o c') (motive_2 := fun xs c o c' _ => P2 xs c o c')
      (motive_3 := fun es els c o c' _ => P3 es els c o c') (motive_4 := fun body c o c' _ => P4 body c o c')
      simple call ifTrue ifFalse loop fnDef nil cons stop none els hit miss next cont brk ret exit h,
   fun h => ExecLoop.rec (motive_1 := fun x c o c' _ => P1 x c o c') (motive_2 := fun xs c o c' _ => P2 xs c o c')
      (motive_3 := fun es els c o c' _ => P3 es els c o c') (motive_4 := fun body c o c' _ => P4 body c o c')
      simple call ifTrue ifFalse loop fnDef nil cons stop none els hit miss next cont brk ret exit h⟩

theorem exec_complete :
    (∀ {x c o c'}, ExecCmd x c o c' → ∃ f, ∀ g, f ≤ g → execCmd g x c = some (o, c')) ∧
    (∀ {xs c o c'}, ExecCmds xs c o c' → ∃ f, ∀ g, f ≤ g → execCmds g xs c = some (o, c')) ∧
    (∀ {es els c o c'}, ExecElifs es els c o c' → ∃ f, ∀ g, f ≤ g → execElifs g es els c = some (o, c')) ∧
    (∀ {body c o c'}, ExecLoop body c o c' → ∃ f, ∀ g, f ≤ g → execLoop g body c = some (o, c')) :=
  exec_induct
    (simple := fun hc h => ⟨1, from_succ fun _ _ => (execCmd.eq_3 _ _ _ (by rintro _ _ rfl; cases hc)).trans h⟩)  -- `eq_3`: a line that is no call
    (call := fun hl he _ hr ⟨f, ih⟩ => ⟨f + 1, from_succ fun g hf => by simp only [execCmd, hl, he, ih g hf, hr]⟩)
    (ifTrue := fun hg _ ⟨f, ih⟩ => ⟨f + 1, from_succ fun g hf => by simp only [execCmd, hg, ih g hf]⟩)
    (ifFalse := fun hg _ ⟨f, ih⟩ => ⟨f + 1, from_succ fun g hf => by simp only [execCmd, hg, ih g hf]⟩)
    (loop := fun _ ⟨f, ih⟩ => ⟨f + 1, from_succ fun g hf => by simp only [execCmd, ih g hf]⟩)
    (fnDef := ⟨1, from_succ fun _ _ => rfl⟩)
    (nil := ⟨1, from_succ fun _ _ => rfl⟩)
    (cons := fun _ _ ⟨f1, ih1⟩ ⟨f2, ih2⟩ => ⟨max f1 f2 + 1, from_succ fun g hf => by
      simp only [execCmds, ih1 g (Nat.max_le.mp hf).1, ih2 g (Nat.max_le.mp hf).2]⟩)
    (stop := fun {_ _ _ o _} _ hne ⟨f, ih⟩ => ⟨f + 1, from_succ fun g hf => by
      simp only [execCmds, ih g hf]
      cases o <;> first | rfl | exact absurd rfl hne⟩)
    (none := ⟨1, from_succ fun _ _ => rfl⟩)
    (els := fun _ ⟨f, ih⟩ => ⟨f + 1, from_succ fun g hf => by simp only [execElifs, ih g hf]⟩)
    (hit := fun hg _ ⟨f, ih⟩ => ⟨f + 1, from_succ fun g hf => by simp only [execElifs, hg, ih g hf]⟩)
    (miss := fun hg _ ⟨f, ih⟩ => ⟨f + 1, from_succ fun g hf => by simp only [execElifs, hg, ih g hf]⟩)
    (next := fun _ _ ⟨f1, ih1⟩ ⟨f2, ih2⟩ => ⟨max f1 f2 + 1, from_succ fun g hf => by
      simp only [execLoop, ih1 g (Nat.max_le.mp hf).1, ih2 g (Nat.max_le.mp hf).2]⟩)
    (cont := fun _ _ ⟨f1, ih1⟩ ⟨f2, ih2⟩ => ⟨max f1 f2 + 1, from_succ fun g hf => by
      simp only [execLoop, ih1 g (Nat.max_le.mp hf).1, ih2 g (Nat.max_le.mp hf).2]⟩)
    (brk := fun _ ⟨f, ih⟩ => ⟨f + 1, from_succ fun g hf => by simp only [execLoop, ih g hf]⟩)
    (ret := fun _ ⟨f, ih⟩ => ⟨f + 1, from_succ fun g hf => by simp only [execLoop, ih g hf]⟩)
    (exit := fun _ ⟨f, ih⟩ => ⟨f + 1, from_succ fun g hf => by simp only [execLoop, ih g hf]⟩)

theorem execCmd_det {x : Cmd} {c : Cfg} {o1 o2 : Out} {c1 c2 : Cfg} (h1 : ExecCmd x c o1 c1) (h2 : ExecCmd x c o2 c2) : o1 = o2 ∧ c1 = c2 :=
  Prod.mk.inj (det_of_complete (exec_complete.1 h1) (exec_complete.1 h2))
theorem execCmds_det {xs : List Cmd} {c : Cfg} {o1 o2 : Out} {c1 c2 : Cfg} (h1 : ExecCmds xs c o1 c1) (h2 : ExecCmds xs c o2 c2) : o1 = o2 ∧ c1 = c2 :=
  Prod.mk.inj (det_of_complete (exec_complete.2.1 h1) (exec_complete.2.1 h2))
theorem execElifs_det {es : List (Line × List Cmd)} {els : Option (List Cmd)} {c : Cfg} {o1 o2 : Out} {c1 c2 : Cfg}
    (h1 : ExecElifs es els c o1 c1) (h2 : ExecElifs es els c o2 c2) : o1 = o2 ∧ c1 = c2 :=
  Prod.mk.inj (det_of_complete (exec_complete.2.2.1 h1) (exec_complete.2.2.1 h2))
theorem execLoop_det {body : List Cmd} {c : Cfg} {o1 o2 : Out} {c1 c2 : Cfg} (h1 : ExecLoop body c o1 c1) (h2 : ExecLoop body c o2 c2) : o1 = o2 ∧ c1 = c2 :=
  Prod.mk.inj (det_of_complete (exec_complete.2.2.2 h1) (exec_complete.2.2.2 h2))

theorem exec_agrees {fuel : Nat} {xs : List Cmd} {c c1 c2 : Cfg} {o1 o2 : Out}
    (h1 : execCmds fuel xs c = some (o1, c1)) (h2 : ExecCmds xs c o2 c2) : o1 = o2 ∧ c1 = c2 :=
  execCmds_det (execCmds_sound fuel xs c o1 c1 h1) h2

end Tsh.Sem2
