/-
  The typed pass on expressions, an instance of the expression walk: `typedRule` says, constructor by constructor, why the node
  is typed under the checks the parser made; `valsP`, `argsP`, `PT.elems`, `chainP` follow from "every member is typed" and what
  the walk knows of the members.
-/
import TshVerif.Lemmas.ParserTypedPreds
namespace Tsh.Parser
open Tsh Tsh.Tr Tsh.LexTables

theorem CtxOK.var {c : Ctx} (hc : CtxOK c) {name pfx : String} {g : Bool} {v : Var}
    (h : c.findVar name pfx g = some v) : PT.known v.vt = true := by
  obtain ⟨e, he, rfl⟩ := findVar_mem h
  exact hc.vars e he

theorem CtxOK.func {c : Ctx} (hc : CtxOK c) {name pfx : String} {f : FuncInfo}
    (h : c.findFunc name pfx = some f) :
    f.rets.all PT.basic = true ∧ f.params.all (fun p => PT.basic p.vt) = true := by
  obtain ⟨e, he, rfl⟩ := findFunc_mem h
  exact hc.funcs e he

theorem all_basic_known {ts : List ValueType} (h : ts.all PT.basic = true) : ts.all PT.known = true := by
  simp only [List.all_eq_true] at h ⊢
  exact fun t ht => basic_known (h t ht)

theorem exprsP_iff {es : List Expr} : exprsP es ↔ ∀ e ∈ es, exprP e := by
  induction es with
  | nil => simp [exprsP, PT.exprs]
  | cons x xs ih => simp only [exprsP, exprP, PT.exprs, Bool.and_eq_true, List.forall_mem_cons] at ih ⊢; rw [ih]

theorem chain_expr {e : Expr} (h : PT.chain e = true) : PT.expr e = true := by
  cases e with
  | app n args nx => cases nx <;> exact h
  | _ => cases h

theorem hasValue_of_dt {e : Expr} (h1 : (Expr.valueType e).dt ≠ .unknown) (h2 : (Expr.valueType e).dt ≠ .multiple) :
    PT.hasValue e = true := by
  simp [PT.hasValue, h1, h2]

theorem hasValue_of_basic {e : Expr} (h : PT.basic (Expr.valueType e) = true) : PT.hasValue e = true := by
  apply hasValue_of_dt <;> (intro hd; simp [PT.basic, hd] at h)

theorem hasValue_of {e : Expr} (hchk : valueChk e) : PT.expr e = true → PT.callArity1 e = true → PT.hasValue e = true := by
  unfold valueChk at hchk
  split at hchk
  · -- one return type, and it is bool, int or string (or a slice of them)
    intro he hc1
    simp only [PT.callArity1, beq_iff_eq] at hc1
    simp only [PT.expr, Bool.and_eq_true] at he
    obtain ⟨t, rfl⟩ := List.length_eq_one_iff.mp hc1
    exact hasValue_of_basic (by simpa [Expr.valueType, fnValueType] using he.2)
  · intro _ _
    simpa [PT.hasValue, PT.isApp] using hchk
  · intro _ _
    simp only [Bool.not_false, Bool.and_true, Bool.or_eq_true, beq_iff_eq, not_or] at hchk
    exact hasValue_of_dt hchk.1 hchk.2

theorem allowedBinary_ok {vt : ValueType} {op : String} (h : (allowedBinary vt).contains op = true) :
    binaryAllowed vt op = true := by
  have table : ∀ op ∈ allowedBinary vt, binaryAllowed vt op = true := by
    obtain ⟨dt, sl⟩ := vt
    cases dt with
    | other s => cases sl <;> (intro op h; cases h)
    | _ => cases sl <;> decide
  exact table op (List.contains_iff_mem.mp h)

theorem allowedCompare_ok {vt : ValueType} {op : String} (h : (allowedCompare vt).contains op = true) :
    PT.cmpAllowed vt op = true := by
  have table : ∀ op ∈ allowedCompare vt, PT.cmpAllowed vt op = true := by
    obtain ⟨dt, sl⟩ := vt
    cases dt with
    | other s => cases sl <;> (intro op h; cases h)
    | _ => cases sl <;> decide
  exact table op (List.contains_iff_mem.mp h)

theorem args_snoc {acc : List Expr} {e : Expr} (ha : PT.args_ acc = true) (he : PT.expr e = true)
    (hu : (Expr.valueType e).dt ≠ DataType.unknown) : PT.args_ (acc ++ [e]) = true := by
  induction acc with
  | nil => simp [PT.args_, he, hu]
  | cons x xs ih =>
    simp only [PT.args_, Bool.and_eq_true] at ha
    simp [PT.args_, ha.1.1, ha.1.2, ih ha.2]

theorem args_of {es : List Expr} (h : exprsP es) (hv : Valued es) : argsP es := by
  induction es with
  | nil => rfl
  | cons x xs ih =>
    have h := exprsP_iff.mp h
    simp only [List.forall_mem_cons] at h
    simpa [argsP, PT.args_, h.1.out, hv x (List.mem_cons_self ..)] using
      ih (exprsP_iff.mpr h.2) fun e he => hv e (List.mem_cons_of_mem _ he)

theorem exprs_of_args : ∀ {es : List Expr}, argsP es → exprsP es
  | [], _ => rfl
  | x :: xs, h => by
    simp only [argsP, PT.args_, Bool.and_eq_true] at h
    simpa [exprsP, PT.exprs, h.1.1] using exprs_of_args (es := xs) h.2

theorem elems_of {dt : DataType} {es : List Expr} (h : exprsP es) (hv : ∀ e ∈ es, (Expr.valueType e).equals ⟨dt, false⟩ = true) :
    PT.elems dt es = true := by
  induction es with
  | nil => rfl
  | cons x xs ih =>
    have h := exprsP_iff.mp h
    simp only [List.forall_mem_cons] at h hv
    simp [PT.elems, h.1.out, hv.1, ih (exprsP_iff.mpr h.2) hv.2]

theorem vals1_of : ∀ {vs : List Expr}, (∀ e ∈ vs, exprP e) → (∀ e ∈ vs, PT.callArity1 e = true ∧ valueChk e) → PT.vals1 vs = true
  | [], _, _ => rfl
  | x :: xs, h, hv => by
    simp only [List.forall_mem_cons] at h hv
    simp [PT.vals1, h.1.out, hv.1.1, hasValue_of hv.1.2 h.1 hv.1.1, vals1_of h.2 hv.2]

theorem vals_of {first : Bool} {vs : List Expr} (h : exprsP vs) (hs : ValsShape first vs) : valsP first vs :=
  have h := exprsP_iff.mp h
  ⟨hs.1, hs.2.imp (vals1_of h) fun ⟨hf, c, hc, hm⟩ => ⟨hf, c, hc, h c (hc ▸ List.mem_cons_self ..), hm⟩⟩

theorem chain_of {e : Expr} (h : exprP e) (ha : PT.isApp e = true) : chainP e := by
  cases e with
  | app n args nx => cases nx <;> exact h
  | _ => cases ha

theorem typedRule : ExprRule CtxOK exprP exprsP (fun _ => argsP) where
  nil := rfl
  cons he hes := Bool.and_eq_true_iff.mpr ⟨he, hes⟩
  uncons h := Bool.and_eq_true_iff.mp h
  var hc hv := by simp [exprP, PT.expr, hc.var hv]
  argsNil := rfl
  argsSnoc ha hs hu _ := args_snoc ha (exprsP_iff.mp hs _ (by simp)) hu
  args := exprs_of_args
  call hc hf ha _ := by simp [exprP, PT.expr, ha.out, (hc.func hf).1]
  app ha := ha
  appPipe ha hn hp := by simp [exprP, PT.expr, ha.out, (chain_of hn hp).out]
  boolLit := rfl
  intLit := rfl
  strLit := rfl
  group h := h
  inputNone := rfl
  input h hs := by simp [exprP, PT.expr, h.out, hs]
  read h hs := by simp [exprP, PT.expr, h.out, hs]
  itoa h hs := by simp [exprP, PT.expr, h.out, hs]
  exists_ h hs := by simp [exprP, PT.expr, h.out, hs]
  len h hs := by
    rw [Bool.or_comm] at hs
    simp [exprP, PT.expr, h.out, hs]
  copy hv h h1 h3 := by
    simp only [exprP, PT.expr] at hv
    simp [exprP, PT.expr, h.out, hv, h1, h3]
  unary h hb := by simp [exprP, PT.expr, h.out, hb]
  binary hl hr heq hop := by simp only [exprP, PT.expr, hl.out, hr.out, heq, allowedBinary_ok hop, Bool.and_self]
  compare hl hr heq hop := by simp only [exprP, PT.expr, hl.out, hr.out, heq, allowedCompare_ok hop, Bool.and_self]
  logical hl hr hlb hrb hop := by
    rcases hop with rfl | rfl <;> simp [exprP, PT.expr, hl.out, hr.out, hlb, hrb]
  sliceNew hvt hv he := by
    simp only [exprP, PT.expr, elems_of hv he, Bool.true_and]
    simpa [PT.basic, basicDt] using hvt
  sliceEval hv hi hsl hsi := by simp [exprP, PT.expr, hv.out, hi.out, hsl, hsi]
  substr hv ha hs hi := by simp [exprP, PT.expr, hv.out, ha.out, hs, hi]
  substrTo hv ha hb hs hi hj := by simp [exprP, PT.expr, hv.out, ha.out, hb.out, hs, hi, hj]

structure ExprIH (fuel : Nat) : Prop where
  values : ∀ ctx first, CtxOK ctx → Post (evalValues fuel ctx first) (valsP first)
  builtinArgs : ∀ ctx, CtxOK ctx → Post (evalBuiltinArgs fuel ctx) argsP
  builtin : ∀ ctx tt mn mx, CtxOK ctx → Post (evalBuiltin fuel ctx tt mn mx) (builtinP mn mx)
  arguments : ∀ ctx ps, CtxOK ctx → Post (evalArguments fuel ctx ps) argsP
  argLoop : ∀ ctx ps acc, CtxOK ctx → argsP acc → Post (evalArgLoop fuel ctx ps acc) argsP
  argTail : ∀ ctx ps acc, CtxOK ctx → argsP acc → Post (evalArgTail fuel ctx ps acc) argsP
  functionCall : ∀ ctx, CtxOK ctx → Post (evalFunctionCall fuel ctx) exprP
  appCall : ∀ ctx, CtxOK ctx → Post (evalAppCall fuel ctx) chainP
  sliceInst : ∀ ctx, CtxOK ctx → Post (evalSliceInstantiation fuel ctx) exprP
  sliceElems : ∀ ctx dt, CtxOK ctx → Post (evalSliceElems fuel ctx dt) (fun es => PT.elems dt es = true)
  subscript : ∀ ctx, CtxOK ctx → Post (evalSubscript fuel ctx) exprP
  single : ∀ ctx, CtxOK ctx → Post (evalSingle fuel ctx) exprP
  unary : ∀ ctx, CtxOK ctx → Post (evalUnary fuel ctx) exprP
  binary : ∀ ctx lv, CtxOK ctx → Post (evalBinary fuel ctx lv) exprP
  binaryLoop : ∀ ctx lv l, CtxOK ctx → exprP l → Post (evalBinaryLoop fuel ctx lv l) exprP
  comparison : ∀ ctx, CtxOK ctx → Post (evalComparison fuel ctx) exprP
  logical : ∀ ctx lv, CtxOK ctx → Post (evalLogical fuel ctx lv) exprP
  logicalLoop : ∀ ctx lv l, CtxOK ctx → exprP l → Post (evalLogicalLoop fuel ctx lv l) exprP
  expression : ∀ ctx, CtxOK ctx → Post (evalExpression fuel ctx) exprP

theorem exprIH_all (fuel : Nat) : ExprIH fuel :=
  have w := exprWalk typedRule fuel
  { values := fun ctx first hc => (w.values ctx first hc).mono fun _ h => vals_of h.1 h.2
    builtinArgs := fun ctx hc => (w.builtinArgs ctx hc).mono fun _ h => args_of h.1 h.2
    builtin := fun ctx tt mn mx hc => (w.builtin ctx tt mn mx hc).mono fun _ h => ⟨args_of h.1.1 h.1.2, h.2⟩
    arguments := fun ctx ps hc => (w.arguments ctx ps hc).mono fun _ h => h.1
    argLoop := w.argLoop
    argTail := w.argTail
    functionCall := w.functionCall
    appCall := fun ctx hc => (w.appCall ctx hc).mono fun _ h => chain_of h.1 h.2
    sliceInst := w.sliceInst
    sliceElems := fun ctx dt hc => (w.sliceElems ctx dt hc).mono fun _ h => elems_of h.1 h.2
    subscript := w.subscript
    single := w.single
    unary := w.unary
    binary := w.binary
    binaryLoop := w.binaryLoop
    comparison := w.comparison
    logical := w.logical
    logicalLoop := w.logicalLoop
    expression := w.expression }

end Tsh.Parser
