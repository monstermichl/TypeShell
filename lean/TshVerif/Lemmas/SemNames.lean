/-
  The generated names (`_h<k>`, `_ma<i>`, `_fv<n>`; Batch: `_e`, `_fa0`) are valid, pairwise different and no user name (instances
  of `Lemmas/Names`); a store update read back.
-/
import TshVerif.Sem.Bash
import TshVerif.Lemmas.Names
namespace Tsh.Sem
open Tsh Tsh.Bash Tsh.Names

theorem set_other (ρ : Store) (x y v : String) (h : y ≠ x) : ρ.set x v y = ρ y := by
  simp [Store.set, h]
theorem set_same (ρ : Store) (x v : String) : ρ.set x v x = v := by
  simp [Store.set]

theorem helperName_eq (k : Nat) : helperName k = s!"_h{k}" := rfl
theorem tmpName_eq (k : Nat) : tmpName k = s!"_ma{k}" := rfl
theorem flagName_eq (k : Nat) : flagName k = "_fv" ++ Nat.repr k := rfl

theorem helperName_inj {a b : Nat} (h : helperName a = helperName b) : a = b := numbered_inj "_h" h
theorem tmpName_inj {a b : Nat} (h : tmpName a = tmpName b) : a = b := numbered_inj "_ma" h
theorem flagName_inj {a b : Nat} (h : flagName a = flagName b) : a = b := numbered_inj "_fv" h

theorem digit_nameChar (c : Char) (h : c.isDigit = true) : nameChar c = true := by
  simp [nameChar, Char.isAlphanum, h]

theorem numbered_valid (p : String) (k : Nat) (hp : validName p.toList = true) : validName (p ++ Nat.repr k).toList = true := by
  rw [String.toList_append]
  cases hl : p.toList with
  | nil => simp [hl, validName] at hp
  | cons c cs =>
    simp only [hl, validName, Bool.and_eq_true, List.all_eq_true, List.cons_append] at hp ⊢
    refine ⟨hp.1, ?_⟩
    intro d hd
    simp only [List.mem_cons, List.mem_append] at hd
    rcases hd with rfl | hd | hd
    · exact hp.2 d (by simp)
    · exact hp.2 d (by simp [hd])
    · exact digit_nameChar d (repr_digits k d hd)

theorem helperName_valid (k : Nat) : validName (helperName k).toList = true := numbered_valid "_h" k (by decide)
theorem tmpName_valid (k : Nat) : validName (tmpName k).toList = true := numbered_valid "_ma" k (by decide)
theorem flagName_valid (k : Nat) : validName (flagName k).toList = true := numbered_valid "_fv" k (by decide)

/- the generated names begin with `_`, a program variable does not -/
theorem helperName_head (k : Nat) : (helperName k).toList.head? = some '_' := head_append (p := "_h") rfl _
theorem tmpName_head (k : Nat) : (tmpName k).toList.head? = some '_' := head_append (p := "_ma") rfl _
theorem flagName_head (k : Nat) : (flagName k).toList.head? = some '_' := head_append (p := "_fv") rfl _

theorem good_ne_owned {x y : String} (h : goodName x = true) (hy : y.toList.head? = some '_') : x ≠ y :=
  ne_of_head (by simpa [goodName] using (Bool.and_eq_true_iff.mp h).2) hy

theorem good_ne_helper (x : String) (k : Nat) (h : goodName x = true) : x ≠ helperName k := good_ne_owned h (helperName_head k)
theorem good_ne_tmp (x : String) (k : Nat) (h : goodName x = true) : x ≠ tmpName k := good_ne_owned h (tmpName_head k)
theorem good_ne_flag (x : String) (k : Nat) (h : goodName x = true) : x ≠ flagName k := good_ne_owned h (flagName_head k)

theorem tmp_ne_helper (i k : Nat) : tmpName i ≠ helperName k := stems_ne (p := "_ma") (q := "_h") (by decide) (by decide) _ _
theorem flag_ne_helper (i k : Nat) : flagName i ≠ helperName k := stems_ne (p := "_fv") (q := "_h") (by decide) (by decide) _ _
theorem flag_ne_tmp (i k : Nat) : flagName i ≠ tmpName k := stems_ne (p := "_fv") (q := "_ma") (by decide) (by decide) _ _

end Tsh.Sem

namespace Tsh.SemB
open Tsh Tsh.Sem Tsh.Names

/- `_e` and `_fa0` are none of the numbered names (`_e` ends in no digit, `_fa` is none of their stems) and no program variable -/
theorem e_ne_numbered (p : String) (k : Nat) : "_e" ≠ p ++ Nat.repr k := last_ne (fun _ h => by cases h; rfl) p k
theorem e_ne_helper (k : Nat) : "_e" ≠ helperName k := e_ne_numbered _ k
theorem e_ne_tmp (i : Nat) : "_e" ≠ tmpName i := e_ne_numbered _ i
theorem flag_ne_e (j : Nat) : flagName j ≠ "_e" := (e_ne_numbered _ j).symm
theorem good_ne_e (x : String) (h : goodName x = true) : "_e" ≠ x := by
  intro e; subst e; revert h; decide
theorem fa0_ne_helper (k : Nat) : "_fa0" ≠ helperName k := stems_ne (p := "_fa") (q := "_h") (by decide) (by decide) "0" _
theorem good_ne_fa0 (x : String) (h : goodName x = true) : x ≠ "_fa0" := by
  intro e; subst e; revert h; decide
theorem flag_ne_fa0 (j : Nat) : flagName j ≠ "_fa0" := stems_ne (p := "_fv") (q := "_fa") (by decide) (by decide) _ "0"

end Tsh.SemB
