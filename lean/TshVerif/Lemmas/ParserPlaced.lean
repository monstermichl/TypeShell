/-
  Placement (break / continue / return / function definitions stand where the scope stack says) as an instance of the statement
  walk: the environment is the scope stack, the rules for `return`, `break`, `continue` use the parser's own scope queries.
  Placement needs no typing; `PlaceIH` carries hypotheses `CtxOK`, for which alone Lemmas/ParserTypedPreds is imported.
-/
import TshVerif.Lemmas.ParserTypedPreds
import TshVerif.Lemmas.ParserStmtRuns
namespace Tsh.Parser
open Tsh Tsh.Tr Tsh.LexTables

/-- the scope stack of a context inside a program: `program` at the bottom and nowhere else -/
def ScOK (ctx : Ctx) : Prop := ∃ rest, ctx.scopes = rest ++ [Scope.program] ∧ Scope.program ∉ rest

/-- the statement context a scope stack stands for (`break` is also let through inside a `switch`: brkAnywhere) -/
def sc (ctx : Ctx) : SCtx := { inLoop := ctx.findScope .for_, inFunc := ctx.findScope .function, brkAnywhere := true }

theorem ScOK.push {ctx : Ctx} (h : ScOK ctx) {s : Scope} (hs : s ≠ .program) : ScOK (ctx.push s) := by
  obtain ⟨rest, h1, h2⟩ := h
  refine ⟨s :: rest, by simp [Ctx.push, h1], ?_⟩
  simp only [List.mem_cons, not_or]
  exact ⟨fun e => hs e.symm, h2⟩

theorem ScOK.first {ctx : Ctx} (h : ctx.scopes = []) : ScOK (ctx.push .program) :=
  ⟨[], by simp [Ctx.push, h], by simp⟩

theorem ScOK.global {ctx : Ctx} (h : ScOK ctx) (hg : ctx.global = true) :
    ctx.findScope .for_ = false ∧ ctx.findScope .function = false := by
  obtain ⟨rest, h1, h2⟩ := h
  have : rest = [] := by
    cases rest with
    | nil => rfl
    | cons x xs =>
      simp only [Ctx.global, h1, List.cons_append, List.head?_cons, beq_iff_eq, Option.some.injEq] at hg
      exact absurd (hg ▸ List.mem_cons_self ..) h2
  subst this
  simp [Ctx.findScope, h1]

section
variable {pfx : String} {g : Bool} {c c' : Ctx}

theorem addVars_scopes {vs : List Var} (h : c.addVars pfx g vs = some c') :
    c'.scopes = c.scopes := by
  obtain ⟨_, rfl, -⟩ := addVars_ctx h
  rfl

theorem registerDefs_name {n : String} {p : Bool} {r : List ValueType} {ps : List Var} {b : List Stmt}
    (h : Parser.registerDefs c pfx g (.funcDef n p r ps b) = some c') : n ≠ "" := by
  simp only [Parser.registerDefs, Ctx.addFunc, Ctx.buildName] at h
  intro hn
  subst hn
  simp at h

end

theorem ScOK_of_scopes {c c' : Ctx} (h : c'.scopes = c.scopes) (hs : ScOK c) : ScOK c' := by
  obtain ⟨rest, h1, h2⟩ := hs
  exact ⟨rest, by rw [h, h1], h2⟩

/-- a statement is placed, provided that - if it is a function definition - its name is not empty (the block loop
    registers every definition under its name and fails for the empty one) -/
def placedQ (ctx : Ctx) (st : Stmt) : Prop :=
  (∀ n p r ps b, st = .funcDef n p r ps b → n ≠ "") → Stmt.placed (sc ctx) st = true

def placedSs (ctx : Ctx) (ss : List Stmt) : Prop := placedStmts (sc ctx) ss = true

theorem placedStmts_iff {c : SCtx} {ss : List Stmt} : placedStmts c ss = true ↔ ∀ s ∈ ss, Stmt.placed c s = true := by
  induction ss with
  | nil => simp [placedStmts]
  | cons x xs ih => simp only [placedStmts, Bool.and_eq_true, List.forall_mem_cons, ih]

theorem placedStmts_append {c : SCtx} {a b : List Stmt} (ha : placedStmts c a = true) (hb : placedStmts c b = true) :
    placedStmts c (a ++ b) = true :=
  placedStmts_iff.mpr fun s hs => (List.mem_append.mp hs).elim (placedStmts_iff.mp ha s) (placedStmts_iff.mp hb s)

theorem placedElifs_snoc {c : SCtx} {a : List (Expr × List Stmt)} {e : Expr} {b : List Stmt} (ha : placedElifs c a = true)
    (hb : placedStmts c b = true) : placedElifs c (a ++ [(e, b)]) = true := by
  induction a with
  | nil => simp [placedElifs, hb]
  | cons x xs ih =>
    obtain ⟨e', body⟩ := x
    simp only [placedElifs, Bool.and_eq_true] at ha
    simp only [List.cons_append, placedElifs, Bool.and_eq_true]
    exact ⟨ha.1, ih ha.2⟩

variable {fuel : Nat}

theorem placed_of_simple {st : Stmt} (h : isSimple st = true) (c : SCtx) : Stmt.placed c st = true := by
  cases st <;> first | rfl | cases h

theorem placed_incDec (c : SCtx) (v : Var) (b : Bool) : Stmt.placed c (incDecStmt v b) = true := by
  simp [incDecStmt, Stmt.placed]


def scOf (env : List Scope) : SCtx := { inLoop := env.contains .for_, inFunc := env.contains .function, brkAnywhere := true }

/-- at `ctx.scopes`, `okS` is `placedQ ctx` and `okSs` is `placedSs ctx` -/
@[reducible] def placedPass : Pass (List Scope) where
  In env ctx := ctx.scopes = env ∧ ScOK ctx
  okE _ _ := True
  okEs _ _ := True
  okArgs _ _ _ := True
  okC _ _ := True
  okTag _ _ := True
  okS env st := (∀ n p r ps b, st = .funcDef n p r ps b → n ≠ "") → Stmt.placed (scOf env) st = true
  okSs env ss := placedStmts (scOf env) ss = true
  okEl env l := placedElifs (scOf env) l = true
  decl env _ := env
  push env s := s :: env
  pushOK s := s ≠ .program

theorem placed_branch {s : Scope} (hs : branchScope s) {env : List Scope} {ss : List Stmt} :
    placedStmts (scOf (s :: env)) ss = true ↔ placedStmts (scOf env) ss = true := by
  rcases hs with rfl | rfl <;> simp [scOf]

theorem placedSRule : StmtRule placedPass where
  expr _ := ExprRule.any
  push hc hs := ⟨by simp [Ctx.push, hc.1], hc.2.push hs⟩
  pushBranch hs := by rcases hs with rfl | rfl <;> decide
  register hc _ h := ⟨h.scopes.trans hc.1, ScOK_of_scopes h.scopes hc.2⟩
  nilS := rfl
  snocS h ha hs := by
    rw [foldl_const] at hs
    exact placedStmts_append ha (by
      simp only [placedStmts, Bool.and_true]
      exact hs fun n p r ps b he => registerDefs_name (he ▸ h))
  nilEl := rfl
  snocEl hs ha _ hb := placedElifs_snoc ha ((placed_branch hs).mp hb)
  ifS hs _ hb he hl _ := by
    simp only [Stmt.placed, (placed_branch hs).mp hb, show placedElifs _ _ = true from he, (placed_branch hs).mp hl, Bool.and_self]
  cond _ _ := trivial
  condLit := trivial
  tag _ _ := trivial
  tagLit := trivial
  caseCond _ _ _ := trivial
  assign _ _ _ _ _ _ := rfl
  assignCall _ _ _ _ _ := rfl
  compound _ _ _ _ _ _ := rfl
  sliceAssign _ _ _ _ _ _ _ _ := rfl
  incDec _ _ _ _ _ := placed_incDec ..
  ret hc hfn _ _ := hc.1 ▸ hfn
  brk _ _ _ := by simp [Stmt.placed, scOf]
  cont hc h _ := hc.1 ▸ h
  print _ _ _ := rfl
  write _ _ _ _ _ _ := rfl
  panicS _ _ _ := rfl
  exprS _ _ _ := rfl

theorem placed_func (ih : BlockIH placedPass fuel) (env : List Scope) (ctx : Ctx) (hc : placedPass.In env ctx) :
    Post (evalFunctionDefinition (fuel + 1) ctx) (placedPass.okS env) :=
  (evalFunctionDefinition_run (anyWalk fuel) ctx).mono fun _ h => by
    cases h with
    | @mk _ _ _ _ _ body hg _ _ _ h2 hbody _ =>
    obtain ⟨rfl, hs⟩ := hc
    have hsc2 := addVars_scopes h2
    have hb := hbody.elim (ih.block ctx.scopes _ _ _ ⟨hsc2, ScOK_of_scopes hsc2 hs⟩ (by decide)).ok
    obtain ⟨g1, g2⟩ := hs.global hg
    have h1 : ctx.scopes.contains .for_ = false := g1
    have h2 : ctx.scopes.contains .function = false := g2
    have hsc : scOf (.function :: ctx.scopes) = { inLoop := false, inFunc := true, brkAnywhere := true } := by
      simp only [scOf, List.contains_cons, h1]; rfl
    have hb : placedStmts { inLoop := false, inFunc := true, brkAnywhere := true } body = true := hsc ▸ hb.1
    intro hname
    simp only [Stmt.placed, scOf, h1, h2, hb, Bool.not_false, Bool.true_and, Bool.and_true]
    simpa using hname _ _ _ _ _ rfl

theorem placed_for (ih : BlockIH placedPass fuel) (env : List Scope) (ctx : Ctx) (hc : placedPass.In env ctx) :
    Post (evalFor (fuel + 1) ctx) (placedPass.okS env) :=
  (evalFor_run (anyWalk fuel) ctx).mono fun st h _ => by
    obtain ⟨rfl, hs⟩ := hc
    have inLoop : ∀ {c : Ctx} {b : List Stmt}, c.scopes = ctx.scopes → Ran (evalBlock fuel (fun _ _ => true) c .for_) b →
        placedStmts { scOf ctx.scopes with inLoop := true } b = true := fun hsc hb => by
      have := (hb.elim (ih.block _ _ _ _ ⟨hsc, ScOK_of_scopes hsc hs⟩ (by decide)).ok).1
      simpa [scOf] using this
    cases h with
    | @range _ idx iterable _ _ _ pre body _ _ _ h1 hpre hbody =>
      have : placedStmts { scOf ctx.scopes with inLoop := true } (pre ++ body) = true := by
        rcases hpre with ⟨rfl, rfl⟩ | ⟨v, hv, h2, rfl⟩
        · exact inLoop (addVars_scopes h1) hbody
        · have := inLoop ((addVars_scopes h2).trans (addVars_scopes h1)) hbody
          simpa [placedStmts, Stmt.placed] using this
      simp [Stmt.placed, placedOpt, placed_incDec, this]
    | @classic _ ctx1 init incr _ _ hh _ hbody =>
      have ⟨hsc1, hinit⟩ : ctx1.scopes = ctx.scopes ∧ ∀ c, placedOpt c init = true := by
        rcases hh.init with ⟨rfl, rfl⟩ | ⟨st, rfl, hst, hsim, hr⟩
        · exact ⟨rfl, fun _ => rfl⟩
        · exact ⟨(registerDefs_enters hr).scopes, placed_of_simple hsim⟩
      have hincr : ∀ c, placedOpt c incr = true := fun c => by
        cases incr with
        | none => rfl
        | some st => exact placed_of_simple (hh.incr st rfl).2 c
      simp [Stmt.placed, hinit, hincr, inLoop hsc1 hbody]

theorem placedWalk : ∀ fuel, BlockIH placedPass fuel :=
  stmtWalk placedSRule (w_def placedSRule (fun _ _ => rfl) (fun _ _ => rfl) trivial) (fun _ => placed_func) fun _ => placed_for

structure PlaceIH (fuel : Nat) : Prop where
  blockContent : ∀ terms cb ctx scope, CtxOK ctx → ((scope = .program ∧ ctx.scopes = []) ∨ (scope ≠ .program ∧ ScOK ctx)) →
    Post (evalBlockContent fuel terms cb ctx scope) (placedSs (ctx.push scope))
  blockLoop : ∀ terms cb ctx acc, CtxOK ctx → ScOK ctx → placedSs ctx acc → Post (evalBlockLoop fuel terms cb ctx acc) (placedSs ctx)
  block : ∀ cb ctx scope, CtxOK ctx → scope ≠ .program → ScOK ctx → Post (evalBlock fuel cb ctx scope) (placedSs (ctx.push scope))
  functionDefinition : ∀ ctx, CtxOK ctx → ScOK ctx → Post (evalFunctionDefinition fuel ctx) (placedQ ctx)
  if_ : ∀ ctx, CtxOK ctx → ScOK ctx → Post (evalIf fuel ctx) (placedQ ctx)
  ifRest : ∀ ctx c body elifs els, CtxOK ctx → ScOK ctx → placedSs ctx body → placedElifs (sc ctx) elifs = true → placedSs ctx els →
    Post (evalIfRest fuel ctx c body elifs els) (placedQ ctx)
  switch : ∀ ctx, CtxOK ctx → ScOK ctx → Post (evalSwitch fuel ctx) (placedQ ctx)
  cases : ∀ ctx tag first elifs dflt, CtxOK ctx → ScOK ctx → (∀ c b, first = some (c, b) → placedSs ctx b) →
    placedElifs (sc ctx) elifs = true → (∀ d, dflt = some d → placedSs ctx d) → Post (evalCases fuel ctx tag first elifs dflt) (placedQ ctx)
  for_ : ∀ ctx, CtxOK ctx → ScOK ctx → Post (evalFor fuel ctx) (placedQ ctx)
  statement : ∀ ctx, CtxOK ctx → ScOK ctx → Post (evalStatement fuel ctx) (placedQ ctx)

theorem placeIH_all (fuel : Nat) : PlaceIH fuel :=
  have w := placedWalk fuel
  { blockContent := fun terms cb ctx scope _ hs => by
      rcases hs with ⟨rfl, h⟩ | ⟨h1, h2⟩
      · -- `pushOK` excludes `program`
        cases fuel with
        | zero => with_unfolding_all exact Post.div
        | succ fuel =>
          unfold evalBlockContent
          exact ((placedWalk fuel).blockLoop (ctx.push .program).scopes terms cb _ [] ⟨rfl, ScOK.first h⟩ rfl).mono fun _ h => h.1
      · exact (w.blockContent ctx.scopes terms cb ctx scope ⟨rfl, h2⟩ h1).mono fun _ h => h.1
    blockLoop := fun terms cb ctx acc _ hs ha =>
      (w.blockLoop ctx.scopes terms cb ctx acc ⟨by rw [foldl_const], hs⟩ ha).mono fun _ h => h.1
    block := fun cb ctx scope _ hne hs => (w.block ctx.scopes cb ctx scope ⟨rfl, hs⟩ hne).mono fun _ h => h.1
    functionDefinition := fun ctx _ hs => w.functionDefinition ctx.scopes ctx ⟨rfl, hs⟩
    if_ := fun ctx _ hs => w.if_ ctx.scopes ctx ⟨rfl, hs⟩
    ifRest := fun ctx c body elifs els _ hs hb he hl =>
      w.ifRest ctx.scopes ctx c body elifs els ⟨rfl, hs⟩ trivial ((placed_branch (.inl rfl)).mpr hb) he ((placed_branch (.inl rfl)).mpr hl)
    switch := fun ctx _ hs => w.switch ctx.scopes ctx ⟨rfl, hs⟩
    cases := fun ctx tag first elifs dflt _ hs hf he hd =>
      w.cases ctx.scopes ctx tag first elifs dflt ⟨rfl, hs⟩ trivial (fun c b h => ⟨trivial, (placed_branch (.inr rfl)).mpr (hf c b h)⟩) he
        fun d h => (placed_branch (.inr rfl)).mpr (hd d h)
    for_ := fun ctx _ hs => w.for_ ctx.scopes ctx ⟨rfl, hs⟩
    statement := fun ctx _ hs => w.statement ctx.scopes ctx ⟨rfl, hs⟩ }

end Tsh.Parser
