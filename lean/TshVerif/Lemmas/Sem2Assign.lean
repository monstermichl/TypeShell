/-
  Assignments to variables: of one value, of the values of a call, and simultaneous, where every value goes through a temporary as
  soon as it is evaluated (`ValsSim`).  The stores are one lemma, `storeLines_sem`: `ReadsAll` says of the texts, helpers or
  temporaries, what it needs.
-/
import TshVerif.Lemmas.Sem2Stmt
import TshVerif.Lemmas.SemTarget
namespace Tsh.Sem2
open Tsh Tsh.Tr Tsh.Bash Tsh.Sem Tsh.Sem2.Src
open Tsh.Sem.Src (Val Env)


attribute [local irreducible] Store.set  -- as in Sem2Sim

variable {ctx : Ctx} {T : List FEntry} {B : Nat}

theorem src_vals_cons {fuel : Nat} {e : Expr} {rest : List Expr} {c : SCfg} {res : R (List Val)}
    (h : evalVals fuel (e :: rest) c = some res) :
    (∃ f k c1, evalE f e c = some (.exit k c1) ∧ res = .exit k c1) ∨
    (∃ f o c1 v, evalE f e c = some (.ok [o] c1) ∧ resolve c1 o = some v ∧
      ((∃ f' k c2, evalVals f' rest c1 = some (.exit k c2) ∧ res = .exit k c2) ∨
       (∃ f' vs c2, evalVals f' rest c1 = some (.ok vs c2) ∧ res = .ok (v :: vs) c2))) := by
  cases fuel with
  | zero => cases h
  | succ f =>
    rw [evalVals_cons] at h
    rcases bind1_inv h with ⟨k, c1, he, rfl⟩ | ⟨o, c1, he, h⟩
    · exact .inl ⟨f, k, c1, he, rfl⟩
    split at h
    · rename_i v hv
      refine .inr ⟨f, o, c1, v, he, hv, ?_⟩
      rcases bindV_inv h with ⟨k, c2, hr, rfl⟩ | ⟨vs, c2, hr, h⟩
      · exact .inl ⟨f, k, c2, hr, rfl⟩
      · exact .inr ⟨f, vs, c2, hr, (Option.some.inj h).symm⟩
    · cases h

theorem evalVals_single {fuel : Nat} {e : Expr} {c : SCfg} {res : R (List Val)} (h : evalVals fuel [e] c = some res) :
    (∃ f k c1, evalE f e c = some (.exit k c1) ∧ res = .exit k c1) ∨
    (∃ f ov c1 v, evalE f e c = some (.ok [ov] c1) ∧ resolve c1 ov = some v ∧ res = .ok [v] c1) := by
  rcases src_vals_cons h with h | ⟨f, o, c1, v, he, hv, ⟨f', k, c2, hr, _⟩ | ⟨f', vs, c2, hr, rfl⟩⟩
  · exact .inl h
  · cases f' <;> cases hr
  · cases f' <;> cases hr
    exact .inr ⟨f, o, c1, v, he, hv, rfl⟩

theorem evalVals_length : ∀ {es : List Expr} {fuel : Nat} {c c1 : SCfg} {vs : List Val}, evalVals fuel es c = some (.ok vs c1) → vs.length = es.length
  | [], fuel, _, _, _, h => by
    cases fuel <;> cases h
    rfl
  | e :: rest, _, _, _, _, h => by
    rcases src_vals_cons h with ⟨_, _, _, _, h2⟩ | ⟨_, _, _, _, _, _, ⟨_, _, _, _, h4⟩ | ⟨_, vs', _, hr, h4⟩⟩
    · cases h2
    · cases h4
    · cases h4
      exact congrArg (· + 1) (evalVals_length hr)

theorem src_assignN {vars : List Var} {vals : List Expr} {fuel : Nat} {c c' : SCfg} {o : SOut}
    (hs : execS fuel (.assign vars vals) c = some (o, c')) :
    (∃ f k, evalVals f vals c = some (.exit k c') ∧ o = .exit k) ∨
    (∃ f vs c1, evalVals f vals c = some (.ok vs c1) ∧ o = .normal ∧ c' = storeVars c1 vars vs) := by
  obtain ⟨f, rfl⟩ := execS_pos hs
  rw [execS_assign, storeVals] at hs
  split at hs
  · rcases bindV_inv hs with ⟨k, c1, hv, hr⟩ | ⟨vs, c1, hv, hr⟩
    · cases hr
      exact .inl ⟨f, k, hv, rfl⟩
    · cases hr
      exact .inr ⟨f, vs, c1, hv, rfl, rfl⟩
  · cases hs

theorem src_assign1 {fuel : Nat} {x : Var} {e : Expr} {c c' : SCfg} {o : SOut}
    (hs : execS fuel (.assign [x] [e]) c = some (o, c')) :
    (∃ f k, evalE f e c = some (.exit k c') ∧ o = .exit k) ∨
    (∃ f ov c1 v, evalE f e c = some (.ok [ov] c1) ∧ resolve c1 ov = some v ∧ o = .normal ∧ c' = writeVar c1 x v) := by
  rcases src_assignN hs with ⟨f, k, he, rfl⟩ | ⟨f, vs, c1, he, rfl, rfl⟩
  · rcases evalVals_single he with ⟨f', k', c1', h1, h2⟩ | ⟨_, _, _, _, _, _, h3⟩
    · cases h2
      exact Or.inl ⟨f', _, h1, rfl⟩
    · cases h3
  · rcases evalVals_single he with ⟨_, _, _, _, h2⟩ | ⟨f', ov, c1', v, h1, h2, h3⟩
    · cases h2
    · cases h3
      exact Or.inr ⟨f', ov, _, v, h1, h2, rfl, rfl⟩

theorem src_varDef1 {fuel : Nat} {x : Var} {e : Expr} {c c' : SCfg} {o : SOut}
    (hs : execS fuel (.varDef [x] [e]) c = some (o, c')) :
    (∃ f k, evalE f e c = some (.exit k c') ∧ o = .exit k) ∨
    (∃ f ov c1 v, evalE f e c = some (.ok [ov] c1) ∧ resolve c1 ov = some v ∧ o = .normal ∧ c' = writeVar c1 x v) :=
  src_assign1 (varDef_eq_assign .. ▸ hs)

theorem assign1_semF (hT : TableOK T) (hctx : CtxOK ctx T B) {x : Var} {e : Expr}
    (hx : goodName2 x.name = true) (hf : fragE (tnames T) e = true) {s s' : St} (hc : ctxOf s = ctx)
    (h : assignValues conv [x] [e] s = .ok ((), s')) : StmtSemF ctx T B (fun fuel c => execS fuel (.assign [x] [e]) c) s s' := by
  obtain ⟨r, s1, hr, es'⟩ := assign1_run h
  have es' := addLine_ok (l := .assign (varName s1 x.name x.global) (firstValue r)) es'
  have he := expr_semF hT hctx hf hc hr
  rw [varName_ctx, he.ctxOf, hc] at es'
  refine stmtSemF_bind he (.code (ls := [_]) es' (.cons (sline_var _ _ _ _ x hx rfl rfl) (.nil _ _ _))) fun fuel c o c' hs => ?_
  rcases src_assign1 hs with ⟨f, k, he, rfl⟩ | ⟨f, ov, c1, v, he, hv, rfl, rfl⟩
  · exact .inl ⟨f, k, c', he, rfl⟩
  · refine .inr ⟨f, [ov], c1, he, fun m1 hi1 hh => ?_⟩
    exact .normal (execCmds_step rfl (step2_assign m1 _ (hh.first.expand hi1.agree hv)))
      ⟨hi1.write x v hx, ⟨rfl, rfl, rfl⟩, FlagsKept.set m1 _ (ctx.mg_ne_flag _ _ · hx)⟩

def storeLines (ctx : Ctx) : List Var → List String → List Line
  | x :: xs, t :: ts => .assign (ctx.mg x.name x.global) t :: storeLines ctx xs ts
  | _, _ => []

theorem storeValues_run : ∀ (vars : List Var) (ts : List String) (s : St),
    storeValues conv vars ts s = .ok ((), { s with code := (storeLines (ctxOf s) vars ts).reverse ++ s.code })
  | [], _, s | _ :: _, [], s => by simp [storeValues, storeLines, pure]
  | x :: xs, t :: ts, s => by
    unfold storeValues
    have : conv.varDefinition x.name t x.global s = .ok ((), { s with code := .assign ((ctxOf s).mg x.name x.global) t :: s.code }) := by
      show varAssignment x.name t x.global s = _
      simp only [varAssignment, bind, Tr.get, addLine, Tr.modify, varName_ctx]
    simp only [bind, this]
    rw [storeValues_run xs ts]
    simp only [storeLines, List.reverse_cons, List.append_assoc, List.singleton_append]
    rfl

theorem storeLines_ok (ctx : Ctx) (hi : Nat) (ds : List String) : ∀ (vars : List Var) (ts : List String),
    (vars.all (fun x => goodName2 x.name)) = true → LinesOK ctx hi ds (storeLines ctx vars ts)
  | [], _, _ | _ :: _, [], _ => by simp [storeLines]; exact LinesOK.nil _ _ _
  | x :: xs, t :: ts, hg => by
    simp only [List.all_cons, Bool.and_eq_true] at hg
    simp only [storeLines]
    exact LinesOK.cons (sline_var _ _ _ _ x hg.1 rfl rfl) (storeLines_ok ctx hi ds xs ts hg.2)

/-- the texts read the values in every configuration in step with the source that has the helpers and temporaries of `ρ0` -/
def ReadsAll (ctx : Ctx) (ρ0 : Store) (ts : List String) (vs : List Val) : Prop :=
  ∀ c' m', AgreeF ctx c' m' → (∀ j, m'.ρ (ctx.hn j) = ρ0 (ctx.hn j)) → (∀ j, m'.ρ (ctx.tn j) = ρ0 (ctx.tn j)) →
    expandList m'.ρ ts = some (vs.map Val.render)

theorem HoldsAllF.reads {ts : List String} {vs : List Val} {n : Nat} {ρ : Store} (h : HoldsAllF ctx ts (vs.map Opd.lit) n ρ) :
    ReadsAll ctx ρ ts vs :=
  fun c' _ ha h1 _ => expandList_holds ha (h.mono (Nat.le_refl n) fun j _ => h1 j) (resolveAll_lits c' vs)

theorem expandList_cons {ρ : Store} {t w : String} {ts ws : List String} (h : expandList ρ (t :: ts) = some (w :: ws)) :
    Sem.expand ρ t = some w ∧ expandList ρ ts = some ws := by
  simp only [expandList] at h
  split at h
  · cases h
    exact ⟨‹_›, ‹_›⟩
  · cases h

theorem storeLines_sem {k : Nat} : ∀ (vars : List Var) {ts : List String} {vs : List Val} {c : SCfg} {m : Cfg},
    (vars.all (fun x => goodName2 x.name)) = true → vs.length = vars.length → Inv ctx T c m → ReadsAll ctx m.ρ ts vs →
    Ends ctx T B k (ExecCmds ((storeLines ctx vars ts).map Cmd.simple) m) .normal (storeVars c vars vs) m
  | [], ts, vs, c, m, _, hl, hi, _ => by
    cases List.eq_nil_of_length_eq_zero hl
    exact .refl .nil hi
  | x :: xs, t :: ts, v :: vs, c, m, hg, hl, hi, hr => by
    simp only [List.all_cons, Bool.and_eq_true] at hg
    -- the later texts read neither `x` nor anything else that changes
    have tl : ReadsAll ctx (m.ρ.set (ctx.mg x.name x.global) v.render) ts vs := fun c' m' ha h1 h2 =>
      (expandList_cons (hr c' m' ha (fun j => (h1 j).trans (Sem.set_other _ _ _ _ (ctx.mg_ne_hn _ _ j hg.1).symm))
        (fun j => (h2 j).trans (Sem.set_other _ _ _ _ (ctx.mg_ne_tn _ _ j hg.1).symm)))).2
    exact .after ⟨hi.write x v hg.1, ⟨rfl, rfl, rfl⟩, FlagsKept.set m _ (ctx.mg_ne_flag _ _ · hg.1)⟩
      (storeLines_sem xs hg.2 (by simpa using hl) (hi.write x v hg.1) tl)
      (.cons (.simple rfl (step2_assign m _ (expandList_cons (hr c m hi.agree (fun _ => rfl) (fun _ => rfl))).1))) (Nat.le_refl _)
  | _ :: _, [], _ :: _, c, m, _, _, hi, hr => nomatch hr c m hi.agree (fun _ => rfl) (fun _ => rfl)
  | _ :: _, _, [], _, _, _, hl, _, _ => by simp at hl

theorem evalE_call_lits {fuel : Nat} {e : Expr} (hcall : isCallE e = true) {c c1 : SCfg} {os : List Opd}
    (h : evalE fuel e c = some (.ok os c1)) : ∃ vs : List Val, os = vs.map Opd.lit := by
  obtain ⟨name, rets, args, rfl⟩ := isCallE_inv hcall
  obtain ⟨f, rfl⟩ := evalE_pos h
  rcases bindL_inv (evalE_call ▸ h) with ⟨_, _, _, h⟩ | ⟨_, _, _, h⟩
  · cases h
  split at h
  case h_2 => cases h
  split at h
  case isFalse => cases h
  obtain ⟨_, _, _, ⟨vs, _, _, h⟩ | ⟨_, _, h⟩⟩ := callRet_some h
  · cases h
    exact ⟨vs, rfl⟩
  · cases h

theorem src_callassign {fuel : Nat} {vars : List Var} {call : Expr} (hcall : isCallE call = true) {c c' : SCfg} {o : SOut}
    (hs : execS fuel (.assignCall vars call) c = some (o, c')) :
    Via (fun f c => evalE f call c) c exitS (o, c') fun os c1 =>
      ∃ vs : List Val, os = vs.map Opd.lit ∧ vs.length = vars.length ∧ o = .normal ∧ c' = storeVars c1 vars vs := by
  obtain ⟨f, rfl⟩ := execS_pos hs
  rw [execS_assignCall, storeCall] at hs
  rcases bindL_inv hs with ⟨k, c1, he, hr⟩ | ⟨os, c1, he, hs⟩
  · exact .inl ⟨f, k, c1, he, hr⟩
  · obtain ⟨vs0, rfl⟩ := evalE_call_lits hcall he
    rw [resolveAll_lits] at hs
    dsimp only at hs
    split at hs
    · rename_i hl
      cases hs
      exact .inr ⟨f, _, c1, he, vs0, rfl, by simpa using hl, rfl, rfl⟩
    · cases hs

theorem callassign_semF (hT : TableOK T) (hctx : CtxOK ctx T B) {vars : List Var} {call : Expr}
    (hg : (vars.all (fun x => goodName2 x.name)) = true) (hcall : isCallE call = true) (hf : fragE (tnames T) call = true) {s s' : St}
    (hc : ctxOf s = ctx) (h : assignCallValues conv vars call s = .ok ((), s')) :
    StmtSemF ctx T B (fun fuel c => execS fuel (.assignCall vars call) c) s s' := by
  unfold assignCallValues at h
  obtain ⟨ts, s1, h1, h2⟩ := EM.bind_ok h
  have he := expr_semF hT hctx hf hc h1
  split at h2
  · simp [Tr.fail] at h2
  · rw [storeValues_run, he.ctxOf, hc] at h2
    cases h2
    refine stmtSemF_bind he (.code rfl (storeLines_ok ctx _ _ vars ts hg)) fun fuel c o c' hs => ?_
    refine (src_callassign hcall hs).imp ?_
    rintro _ c1 ⟨vs, rfl, hvl, rfl, rfl⟩ m1 hi1 hh
    exact storeLines_sem vars hg hvl hi1 hh.reads

def tmpTextsF (ctx : Ctx) : Nat → Nat → List String
  | _, 0 => []
  | i, n + 1 => ("${" ++ ctx.tn i ++ "}") :: tmpTextsF ctx (i + 1) n

theorem tn_eq (s : St) (i : Nat) : varName s (s!"_ma{i}") false = (ctxOf s).tn i := by
  rw [varName_ctx]; rfl

def RunsV (ctx : Ctx) (T : List FEntry) (B : Nat) (ls : List Line) (i : Nat) (m : Cfg) : R (List Val) → Prop
  | .ok vs c1 => ∃ m1, ExecCmds (ls.map Cmd.simple) m .normal m1 ∧ Inv ctx T c1 m1 ∧ Ctl m m1 ∧
      (∀ n, B ≤ n → m1.ρ (flagName n) = m.ρ (flagName n)) ∧ (∀ j, j < i → m1.ρ (ctx.tn j) = m.ρ (ctx.tn j)) ∧ ReadsAll ctx m1.ρ (tmpTextsF ctx i vs.length) vs
  | .exit k c1 => ∃ m1, ExecCmds (ls.map Cmd.simple) m (.exit k) m1 ∧ c1.out = m1.out

/-- the lines `ls` evaluate the right-hand sides `vals` into the temporaries from `i` on -/
def ValsSim (ctx : Ctx) (T : List FEntry) (B : Nat) (vals : List Expr) (ls : List Line) (i : Nat) : Prop :=
  ∀ fuel c res, evalVals fuel vals c = some res → ∀ m, Inv ctx T c m → RunsV ctx T B ls i m res

theorem valsSim_nil (i : Nat) : ValsSim ctx T B [] [] i := by
  intro fuel c res hs m hi
  cases fuel <;> cases hs
  exact ⟨m, .nil, hi, Ctl.refl m, fun _ _ => rfl, fun _ _ => rfl, fun _ _ _ _ _ => rfl⟩

theorem valsSim_cons {e : Expr} {rest : List Expr} {new1 ls3 : List Line} {lo n1 i : Nat} {r : List String}
    (sim1 : ESim ctx T B (fun f c => evalE f e c) new1 lo n1 r) (sim3 : ValsSim ctx T B rest ls3 (i + 1)) :
    ValsSim ctx T B (e :: rest) (new1.reverse ++ Line.assign (ctx.tn i) (firstValue r) :: ls3) i := by
  intro fuel c res hs m hi
  rw [RunsV.eq_def, List.map_append, List.map_cons]
  rcases src_vals_cons hs with ⟨f, k, c1, he, rfl⟩ | ⟨f, o, c1, v0, he, hv0, hrest⟩
  · obtain ⟨m1, ex, ho⟩ := sim1.run f c _ he m hi
    exact ⟨m1, execCmds_stop_append _ ex (by simp), ho⟩
  · obtain ⟨m1, ex1, hi1, hc1, hk1, hh1⟩ := runs_ok (sim1.run f c _ he m hi)
    have hst := step2_assign m1 (ctx.tn i) (hh1.first.expand hi1.agree hv0)
    have run : ∀ {o3 m3}, ExecCmds (ls3.map Cmd.simple) { m1 with ρ := m1.ρ.set (ctx.tn i) v0.render } o3 m3 →
        ExecCmds (new1.reverse.map Cmd.simple ++ Cmd.simple (.assign (ctx.tn i) (firstValue r)) :: ls3.map Cmd.simple) m o3 m3 :=
      fun ex3 => execCmds_append ex1 (.cons (.simple rfl hst) ex3)
    rcases hrest with ⟨f', k, c2, hr, rfl⟩ | ⟨f', vs, c2, hr, rfl⟩
    · obtain ⟨m3, ex3, ho⟩ := sim3 f' c1 _ hr _ (hi1.set_tn i _)
      exact ⟨m3, run ex3, ho⟩
    · obtain ⟨m3, ex3, hi3, hc3, hf3, hlow3, tv3⟩ := sim3 f' c1 _ hr _ (hi1.set_tn i _)
      refine ⟨m3, run ex3, hi3, hc1.trans hc3, fun nn hB => ?_, fun j hj => ?_, fun c' m' ha h1 h2 => ?_⟩
      · rw [hf3 nn hB]
        exact (Sem.set_other _ _ _ _ (fun e' => ctx.tn_ne_flag i nn e'.symm)).trans (hk1.flags nn hB)
      · rw [hlow3 j (by omega)]
        exact (Sem.set_other _ _ _ _ (fun e' => by have := ctx.tn_inj e'; omega)).trans (hk1.tmps j)
      · have e : m'.ρ (ctx.tn i) = v0.render := by rw [h2 i, hlow3 i (by omega)]; exact Sem.set_same _ _ _
        simp only [List.length_cons, tmpTextsF, expandList, (complete_var m'.ρ _ (ctx.tn_valid i)).toExpand, e, tv3 c' m' ha h1 h2, List.map_cons]

theorem assignedValues_semF (hT : TableOK T) (hctx : CtxOK ctx T B) (count : Nat) (hcnt : count > 1) :
    ∀ (vals : List Expr) {i : Nat} {s : St} {ts : List String} {s' : St}, fragEs (tnames T) vals = true → ctxOf s = ctx →
      assignedValues conv count vals vals.length i s = .ok (ts, s') →
      ∃ ls, Adds ctx T s s' ls 0 ∧ ts = tmpTextsF ctx i vals.length ∧ ValsSim ctx T B vals ls i
  | [], i, s, ts, s', _, _, h => by
    simp only [List.length_nil] at h
    unfold assignedValues at h
    obtain ⟨rfl, rfl⟩ := EM.pure_ok h
    exact ⟨[], .refl ctx T _, rfl, valsSim_nil i⟩
  | e :: rest, i, s, ts, s', hf, hc, h => by
    simp only [List.length_cons] at h
    unfold assignedValues at h
    simp only [fragEs, Bool.and_eq_true] at hf
    obtain ⟨r, s1, h1, g1⟩ := EM.bind_ok h
    simp only [hcnt, if_true] at g1
    obtain ⟨v, s2, hv, g2⟩ := EM.bind_ok g1
    obtain ⟨vs', s3, hvs, g3⟩ := EM.bind_ok g2
    obtain ⟨rfl, rfl⟩ := EM.pure_ok g3
    have he := expr_semF hT hctx hf.1 hc h1
    have hv' : (do varAssignment (s!"_ma{i}") (firstValue r) false; varEvaluation (s!"_ma{i}") false : BM String) s1 = .ok (v, s2) := hv
    simp only [varAssignment, varEvaluation, bind, Tr.get, addLine, Tr.modify, pure, varEvalString, varName_upd] at hv'
    rw [varName_ctx, he.ctxOf, hc] at hv'
    injection hv' with hv'
    injection hv' with ev2 es2
    have hc2 : ctxOf s2 = ctx := by rw [← es2]; exact he.ctxOf.trans hc
    obtain ⟨ls3, a3, rfl, sim3⟩ := assignedValues_semF hT hctx count hcnt rest hf.2 hc2 hvs
    obtain ⟨new1, n1, r1, e1, sim1⟩ := he
    refine ⟨new1.reverse ++ Line.assign (ctx.tn i) (firstValue r) :: ls3,
      (Adds.expr e1 sim1.lines).trans ((Adds.code es2.symm (.cons (sline_one _ _ _ _ (Or.inr (Or.inl ⟨i, rfl⟩)) rfl rfl) (.nil _ _ _))).trans a3),
      ?_, valsSim_cons sim1 sim3⟩
    exact ev2 ▸ rfl

theorem assignN_semF (hT : TableOK T) (hctx : CtxOK ctx T B) {vars : List Var} {vals : List Expr}
    (hlen : vars.length = vals.length) (hcnt : vars.length > 1)
    (hg : (vars.all (fun x => goodName2 x.name)) = true) (hf : fragEs (tnames T) vals = true) {s s' : St} (hc : ctxOf s = ctx)
    (h : assignValues conv vars vals s = .ok ((), s')) : StmtSemF ctx T B (fun fuel c => execS fuel (.assign vars vals) c) s s' := by
  unfold assignValues at h
  obtain ⟨values, s1, h1, h2⟩ := EM.bind_ok h
  rw [hlen] at h1
  obtain ⟨ls1, a1, rfl, sem1⟩ := assignedValues_semF hT hctx vals.length (by omega) vals hf hc h1
  rw [← hlen, storeValues_run, a1.ctxOf, hc] at h2
  cases h2
  refine .of_adds (cmds := ls1.map Cmd.simple ++ (storeLines ctx vars (tmpTextsF ctx 0 vars.length)).map Cmd.simple)
    (a1.trans (.code rfl (storeLines_ok ctx _ _ vars _ hg))) (by rw [flats_append, flats_simples, flats_simples])
    fun fuel c o c' hs m hi => ?_
  rcases src_assignN hs with ⟨f, k, he, rfl⟩ | ⟨f, vs, c1, he, rfl, rfl⟩
  · obtain ⟨m1, ex, ho⟩ := sem1 f c _ he m hi
    exact Ends.exit (execCmds_stop_append _ ex (by simp)) ho
  · obtain ⟨m1, ex, hi1, hc1, hf1, _, tv1⟩ := sem1 f c _ he m hi
    have hvl : vs.length = vars.length := by rw [evalVals_length he, hlen]
    exact Ends.after ⟨hi1, hc1, fun nn hB _ => hf1 nn hB⟩
      (storeLines_sem vars hg hvl hi1 (hvl ▸ tv1)) (execCmds_append ex) (Nat.le_refl _)

theorem assign_anyF (hT : TableOK T) (hctx : CtxOK ctx T B) {vars : List Var} {vals : List Expr}
    (hf : fragS (tnames T) (.assign vars vals) = true)
    {s s' : St} (hc : ctxOf s = ctx) (h : assignValues conv vars vals s = .ok ((), s')) :
    StmtSemF ctx T B (fun fuel c => execS fuel (.assign vars vals) c) s s' := by
  have hf : (vars.length == vals.length && !vars.isEmpty && vars.all (fun x => goodName2 x.name) && fragEs (tnames T) vals) = true := hf
  simp only [Bool.and_eq_true, beq_iff_eq, Bool.not_eq_true', List.isEmpty_eq_false_iff] at hf
  obtain ⟨⟨⟨hlen, hne⟩, hg⟩, hfe⟩ := hf
  match vars, vals, hlen, hne with
  | [x], [e], _, _ =>
    simp only [fragEs, Bool.and_true] at hfe
    simp only [List.all_cons, List.all_nil, Bool.and_true] at hg
    exact assign1_semF hT hctx hg hfe hc h
  | x :: y :: xs, vals, hlen, _ => exact assignN_semF hT hctx hlen (Nat.le_add_left 2 _) hg hfe hc h

end Tsh.Sem2
