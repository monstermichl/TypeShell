/-
  Calls agree with the declared signatures, in files: the context after the imports knows only functions that the imported
  statements declare.
-/
import TshVerif.Lemmas.ParserSigStmt
import TshVerif.Lemmas.ParserFiles
namespace Tsh.Parser
open Tsh Tsh.Tr Tsh.LexTables

theorem declareAll_sub (F : List PT.Sig) (ss : List Stmt) : ∀ x ∈ F, x ∈ PT.declareAll F ss := by
  induction ss generalizing F with
  | nil => intro x hx; exact hx
  | cons s rest ih =>
    intro x hx
    simp only [PT.declareAll, List.foldl_cons]
    exact ih _ x (declare_sub F s x hx)

theorem ownStatements_sig {depth : Nat} {fs : FileSys} {path : String} {importing : List String} {fuel : Nat} {s0 s s' : PSt}
    {ctx : Ctx} {imported own : List Stmt} (hi : evalImports depth fs path importing fuel {} s0 = .ok (ctx, imported) s)
    (hb : evalBlockContent fuel [TT_EOF] (fun _ _ => true) { ctx with imports := assocSet ctx.imports s.pfx s.pfx } .program s = .ok own s') :
    PT.sigSs (PT.declareAll [] imported) own = true :=
  ownStatements_pass sigWalk (e0 := []) (fun _ _ he => nomatch he) (fun _ _ _ h => h) (fun _ _ _ _ h he => h.enters he) trivial hi hb

theorem evalProgram_sig (depth : Nat) (fs : FileSys) (path : String) (importing : List String) (fuel : Nat) (s0 s' : PSt)
    (body : List Stmt) (h : evalProgram depth fs path importing fuel s0 = .ok body s') :
    ∃ imported own, body = imported ++ own ∧ PT.sigSs (PT.declareAll [] imported) own = true := by
  obtain ⟨ctx, imported, s, own, hi, hb, rfl⟩ := evalProgram_of_ok h
  exact ⟨imported, own, rfl, ownStatements_sig hi hb⟩

end Tsh.Parser
