/-
  `Sem/Src` as the bash proof of the scalar fragment reads it: the instance `src64` of `Source` and, per statement form, what a run
  that ends says of its parts (`SemBSrc`, `Sem2SrcEqs`: the same for the other two proofs).
-/
import TshVerif.Lemmas.SemTarget
namespace Tsh.Sem
open Tsh Tsh.Tr

def src64 : Source where
  okInt := Src.inRange
  okStr := Src.plainLit
  bin := Src.binVal
  cmp := Src.cmpVal
  evalE := Src.evalExpr
  evalL := Src.evalList
  evalC := Src.evalConds

/-- an optional statement on its own: the init of a loop, or its increment -/
def srcIncr (incr : Option Stmt) : Nat → Src.SCfg → Option (Out × Src.SCfg) :=
  fun f c => match incr with
    | some i => Src.execStmt f i c
    | none => some (.normal, c)

theorem src_stmts_nil {fuel : Nat} {c c' : Src.SCfg} {o : Out} (h : Src.execStmts fuel [] c = some (o, c')) : o = .normal ∧ c' = c := by
  cases fuel with
  | zero => cases h
  | succ f => cases h; exact ⟨rfl, rfl⟩

theorem execStmts_cons_cases {fuel : Nat} {st : Stmt} {rest : List Stmt} {c c' : Src.SCfg} {o : Out}
    (h : Src.execStmts fuel (st :: rest) c = some (o, c')) :
    (∃ f1, Src.execStmt f1 st c = some (o, c') ∧ o ≠ .normal) ∨
    (∃ f1 f2 c1, Src.execStmt f1 st c = some (.normal, c1) ∧ Src.execStmts f2 rest c1 = some (o, c')) := by
  cases fuel with
  | zero => cases h
  | succ f =>
    simp only [Src.execStmts] at h
    split at h
    · exact .inr ⟨f, f, _, ‹_›, h⟩
    · rename_i hr
      exact .inl ⟨f, h, fun e => hr c' (e ▸ h)⟩

theorem varDef_eq_assign (fuel : Nat) (vars : List Var) (vals : List Expr) (c : Src.SCfg) :
    Src.execStmt fuel (.varDef vars vals) c = Src.execStmt fuel (.assign vars vals) c := by
  cases fuel <;> rfl

theorem src_assignN {vars : List Var} {vals : List Expr} {fuel : Nat} {c c' : Src.SCfg} {o : Out}
    (hs : Src.execStmt fuel (.assign vars vals) c = some (o, c')) :
    ∃ vs, Src.evalList c.env vals = some vs ∧ o = .normal ∧ c' = { c with env := Src.storeAll c.env vars vs } := by
  cases fuel with
  | zero => cases hs
  | succ f =>
    change (if vars.length == vals.length then (match Src.evalList c.env vals with | some vs => _ | none => none) else none) = _ at hs
    split at hs
    · split at hs
      · cases hs; exact ⟨_, ‹_›, rfl, rfl⟩
      · cases hs
    · cases hs

theorem src_assign1 {x : Var} {e : Expr} {fuel : Nat} {c c' : Src.SCfg} {o : Out}
    (hs : Src.execStmt fuel (.assign [x] [e]) c = some (o, c')) :
    ∃ v, Src.evalExpr c.env e = some v ∧ o = .normal ∧ c' = { c with env := c.env.set x.name v } := by
  obtain ⟨vs, hvs, ho, hc⟩ := src_assignN hs
  obtain ⟨v, _, hv, hnil, rfl⟩ := src64.evalL_some hvs
  cases hnil
  exact ⟨v, hv, ho, hc⟩

theorem src_varDef1 {x : Var} {e : Expr} {fuel : Nat} {c c' : Src.SCfg} {o : Out}
    (hs : Src.execStmt fuel (.varDef [x] [e]) c = some (o, c')) :
    ∃ v, Src.evalExpr c.env e = some v ∧ o = .normal ∧ c' = { c with env := c.env.set x.name v } :=
  src_assign1 (varDef_eq_assign .. ▸ hs)

theorem src_print {es : List Expr} {fuel : Nat} {c c' : Src.SCfg} {o : Out} (h : Src.execStmt fuel (.print es) c = some (o, c')) :
    ∃ vs, Src.evalList c.env es = some vs ∧ o = .normal ∧
      c' = { c with out := c.out ++ [" ".intercalate (vs.map Src.Val.render)] } := by
  cases fuel with
  | zero => cases h
  | succ f =>
    change (match Src.evalList c.env es with | some vs => _ | none => none) = _ at h
    split at h
    · cases h; exact ⟨_, ‹_›, rfl, rfl⟩
    · cases h

theorem src_panic {e : Expr} {fuel : Nat} {c c' : Src.SCfg} {o : Out} (h : Src.execStmt fuel (.panic e) c = some (o, c')) :
    ∃ v, Src.evalExpr c.env e = some v ∧ o = .exit 1 ∧ c' = { c with out := c.out ++ ["panic: " ++ v.render] } := by
  cases fuel with
  | zero => cases h
  | succ f =>
    change (match Src.evalExpr c.env e with | some v => _ | none => none) = _ at h
    split at h
    · cases h; exact ⟨_, ‹_›, rfl, rfl⟩
    · cases h

theorem src_if {cond : Expr} {body els : List Stmt} {elifs : List (Expr × List Stmt)} {fuel : Nat} {c c' : Src.SCfg} {o : Out}
    (hs : Src.execStmt fuel (.ifS cond body elifs els) c = some (o, c')) :
    ∃ f b bs, Src.evalExpr c.env cond = some (.bool b) ∧ Src.evalConds c.env elifs = some bs ∧
      (if b then Src.execStmts f body c else Src.execElifs f elifs bs els c) = some (o, c') := by
  cases fuel with
  | zero => cases hs
  | succ f =>
    change (match Src.evalExpr c.env cond, Src.evalConds c.env elifs with | some (.bool b), some bs => _ | _, _ => none) = _ at hs
    split at hs
    · exact ⟨f, _, _, ‹_›, ‹_›, hs⟩
    · cases hs

theorem src_elifs_nil {fuel : Nat} {bs : List Bool} {els : List Stmt} {c c' : Src.SCfg} {o : Out}
    (hs : Src.execElifs fuel [] bs els c = some (o, c')) : ∃ f, Src.execStmts f els c = some (o, c') := by
  cases fuel with
  | zero => cases hs
  | succ f => exact ⟨f, hs⟩

theorem src_for {init : Option Stmt} {cond : Expr} {incr : Option Stmt} {body : List Stmt} {fuel : Nat} {c c' : Src.SCfg} {o : Out}
    (hs : Src.execStmt fuel (.forS init cond incr body) c = some (o, c')) :
    ∃ f c1, srcIncr init f c = some (.normal, c1) ∧ Src.execLoop f cond incr body c1 = some (o, c') := by
  cases fuel with
  | zero => cases hs
  | succ f =>
    cases init with
    | none => exact ⟨f, c, rfl, hs⟩
    | some i =>
      change (match Src.execStmt f i c with | some (.normal, c1) => _ | _ => none) = _ at hs
      split at hs
      · exact ⟨f, _, ‹_›, hs⟩
      · cases hs

theorem src_loop {cond : Expr} {incr : Option Stmt} {body : List Stmt} {f : Nat} {c c' : Src.SCfg} {o : Out}
    (h : Src.execLoop (f + 1) cond incr body c = some (o, c')) :
    ∃ b, Src.evalExpr c.env cond = some (.bool b) ∧
      ((b = false ∧ o = .normal ∧ c' = c) ∨
       (b = true ∧ ∃ ob cb, Src.execStmts f body c = some (ob, cb) ∧
         ((ob = .brk ∧ o = .normal ∧ c' = cb) ∨ (∃ k, ob = .exit k ∧ o = .exit k ∧ c' = cb) ∨
          ((ob = .normal ∨ ob = .cont) ∧ ∃ c2, srcIncr incr f cb = some (.normal, c2) ∧
             Src.execLoop f cond incr body c2 = some (o, c'))))) := by
  simp only [Src.execLoop] at h
  split at h
  · refine ⟨true, ‹_›, .inr ⟨rfl, ?_⟩⟩
    split at h
    · cases h; exact ⟨_, _, ‹_›, .inl ⟨rfl, rfl, rfl⟩⟩
    · cases h; exact ⟨_, _, ‹_›, .inr (.inl ⟨_, rfl, rfl, rfl⟩)⟩
    · rename_i ob cb hnb hne hb
      refine ⟨ob, cb, hb, .inr (.inr ⟨?_, ?_⟩)⟩
      · cases ob with
        | normal => exact .inl rfl
        | cont => exact .inr rfl
        | brk => exact (hnb rfl).elim
        | exit k => exact (hne k rfl).elim
      · cases incr with
        | none => exact ⟨cb, rfl, h⟩
        | some i =>
          simp only at h
          split at h
          · exact ⟨_, ‹_›, h⟩
          · cases h
    · cases h
  · cases h; exact ⟨false, ‹_›, .inl ⟨rfl, rfl, rfl⟩⟩
  · cases h

end Tsh.Sem
