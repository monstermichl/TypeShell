/-
  The operations of the batch converter outside the control constructs are assembled from five primitives
  (`get`, `nextHelperVar`, `addLine` of a quiet line, `addStartLine`, an update that leaves `core` alone) by `pure`
  and `bind`: `Built`.  A fact that holds of the primitives and is kept by `pure` / `bind` holds of all of them;
  BatchGrade (what they leave alone) and BatchTotal (that they run) each prove it by one induction over `Built`.
  In front of that: the names of the construct labels.
-/
import TshVerif.Model.ConvBatch
namespace Tsh.Batch
open Tsh Tsh.Tr

/- The labels `ifStartOp` and `forStartOp` allocate from `ifCounter` and `forCounter`: end of an if-chain, head and end of a loop.
   `forL n` and `endL n` are the strings that the block tree of `Sem/CmdTree` calls `forLabel n` and `endLabel n`. -/
def ifL (n : Nat) : String := s!"_i{n}"
def forL (n : Nat) : String := s!"_f{n}"
def endL (n : Nat) : String := s!"_e{n}"

def quietLine : BLine → Bool
  | .opn _ | .close | .clabel _ | .cgoto _ => false
  | _ => true

/-- the kinds of line the start code is made of.  `startLine` ⊂ `quietLine` ⊂ `plainLine` (BatchLabels); `SemB.plainB` (Sem/Cmd) is
    `quietLine` without `.label` and the two `else` openers. -/
def startLine : BLine → Bool
  | .raw _ | .set _ _ => true
  | _ => false

/-- the buffers, construct stacks and label counters: everything but the helper-variable counter, the function counter
    and the request flags -/
def core (s : St) :=
  (s.startCode, s.previousFunctionName, s.functionsCode, s.globalCode, s.ifs, s.fors, s.endLabels, s.funcs, s.ifCounter, s.forCounter)

inductive Built : {α : Type} → BM α → Prop
  | pure {α : Type} (a : α) : Built (Pure.pure a : BM α)
  | bind {α β : Type} {x : BM α} {f : α → BM β} : Built x → (∀ a, Built (f a)) → Built (x >>= f)
  | get : Built (Tr.get : BM St)
  | nextHelperVar : Built nextHelperVar
  | addLine {l : BLine} : quietLine l = true → Built (addLine l)
  | addStartLine {l : BLine} : startLine l = true → Built (addStartLine l)
  | flag (f : St → St) : (∀ s, core (f s) = core s) → Built (Tr.modify f : BM Unit)

theorem built_varAssignment {n v : String} {g : Bool} : Built (varAssignment n v g) :=
  .bind .get fun _ => .addLine rfl

theorem built_varEvaluation {n : String} {g : Bool} : Built (varEvaluation n g) :=
  .bind .get fun _ => .pure _

theorem built_addLf : Built addLf := by
  unfold addLf
  refine .bind .get fun s => ?_
  split
  · exact .bind (.addStartLine rfl) fun _ => .bind (.addStartLine rfl) fun _ => .bind (.addStartLine rfl) fun _ => .flag _ fun _ => rfl
  · exact .pure _

theorem built_stringToString (v : String) : Built (stringToString v) :=
  .bind built_addLf fun _ => .pure _

theorem built_setGlobalArgs : ∀ (as : List String) (i : Nat), Built (setGlobalArgs as i)
  | [], _ => .pure _
  | _ :: rest, i => .bind built_varAssignment fun _ => built_setGlobalArgs rest (i + 1)

theorem built_callFunc {n : String} {ga as : List String} : Built (callFunc n ga as) :=
  .bind (built_setGlobalArgs _ _) fun _ => .addLine rfl

theorem built_callEcho (vs : List String) : Built (callEcho vs) :=
  .bind (.flag _ fun _ => rfl) fun _ => built_callFunc

theorem built_setParams : ∀ (ps : List String) (i : Nat), Built (setParams ps i)
  | [], _ => .pure _
  | _ :: rest, i => .bind .get fun _ => .bind (.addLine rfl) fun _ => built_setParams rest (i + 1)

theorem built_storeRets : ∀ (vs : List String) (i : Nat), Built (storeRets vs i)
  | [], _ => .pure _
  | _ :: rest, i => .bind built_varAssignment fun _ => built_storeRets rest (i + 1)

theorem built_copyRets : ∀ (n i : Nat), Built (copyRets n i)
  | 0, _ => .pure _
  | n + 1, i => .bind .nextHelperVar fun _ => .bind .get fun _ => .bind built_varAssignment fun _ =>
      .bind built_varEvaluation fun _ => .bind (built_copyRets n (i + 1)) fun _ => .pure _

theorem built_sliceInits (arr : String) : ∀ (vs : List String) (i : Nat), Built (sliceInits arr vs i)
  | [], _ => .pure _
  | _ :: rest, i => .bind (.addLine rfl) fun _ => built_sliceInits arr rest (i + 1)

/-- the tail of every operator: one line that sets the helper variable, then its evaluation -/
theorem built_helperLine {h : String} {l : St → BLine} (hl : ∀ s, quietLine (l s) = true) :
    Built (do let s ← Tr.get; addLine (l s); varEvaluation h false : BM String) :=
  .bind .get fun s => .bind (.addLine (hl s)) fun _ => built_varEvaluation

theorem built_sliceInstantiationOp (vs : List String) : Built (sliceInstantiationOp vs) :=
  .bind (.addLine rfl) fun _ => .bind .nextHelperVar fun _ => .bind built_varAssignment fun _ =>
    .bind (.flag _ fun _ => rfl) fun _ => .bind .get fun _ => .bind built_callFunc fun _ =>
      .bind (built_sliceInits _ _ _) fun _ => .pure _

theorem built_sliceEvaluationOp (n i : String) : Built (sliceEvaluationOp n i) :=
  .bind .nextHelperVar fun _ => built_helperLine fun _ => rfl

theorem built_callResult {n : String} {ga as : List String} {h r : String} {β : Type} {k : BM β} (hk : Built k) :
    Built (do callFunc n ga as; let s ← Tr.get; varAssignment h (varEvalString s r true) false; k : BM β) :=
  .bind built_callFunc fun _ => .bind .get fun _ => .bind built_varAssignment fun _ => hk

theorem built_sliceLenOp (n : String) : Built (sliceLenOp n) :=
  .bind .nextHelperVar fun _ => .bind (.flag _ fun _ => rfl) fun _ => built_callResult built_varEvaluation

theorem built_stringSubscriptOp (v a b : String) : Built (stringSubscriptOp v a b) :=
  .bind .nextHelperVar fun _ => .bind (.flag _ fun _ => rfl) fun _ => built_callResult (.bind .get fun _ => .pure _)

theorem built_stringLenOp (v : String) : Built (stringLenOp v) :=
  .bind .nextHelperVar fun _ => .bind (.flag _ fun _ => rfl) fun _ => built_callResult built_varEvaluation

theorem built_funcCallOp (n : String) (a : List String) (r : List ValueType) (u : Bool) : Built (funcCallOp n a r u) := by
  unfold funcCallOp
  refine .bind built_callFunc fun _ => .bind ?_ fun _ => .pure _
  split
  · exact built_copyRets _ _
  · exact .pure _

theorem built_appCallOp (cs : List (String × List String)) (u : Bool) : Built (appCallOp cs u) := by
  unfold appCallOp appCallWith
  split
  · exact .bind .nextHelperVar fun _ => .bind .nextHelperVar fun _ =>
      .bind (.flag _ fun _ => rfl) fun _ => .bind built_addLf fun _ =>
        built_callResult (.bind built_varEvaluation fun _ =>
          .bind .get fun _ => .bind built_varAssignment fun _ => .bind .get fun _ => .pure _)
  · exact .bind (.addLine rfl) fun _ => .pure _

theorem built_inputOp (p : String) : Built (inputOp p) :=
  .bind .nextHelperVar fun _ => .bind (.addLine rfl) fun _ => built_varEvaluation

theorem built_copyOp (d s : String) (g : Bool) : Built (copyOp d s g) :=
  .bind (.flag _ fun _ => rfl) fun _ => .bind .get fun _ => .bind built_callFunc fun _ =>
    .bind .nextHelperVar fun _ => built_callResult built_varEvaluation

theorem built_existsOp (p : String) : Built (existsOp p) :=
  .bind .nextHelperVar fun _ => built_helperLine fun _ => rfl

theorem built_readFileOp (p : String) : Built (readFileOp p) :=
  .bind .nextHelperVar fun _ => .bind (.flag _ fun _ => rfl) fun _ => .bind built_addLf fun _ =>
    built_callResult built_varEvaluation

theorem built_sliceAssignmentOp (n i v d : String) (g : Bool) : Built (sliceAssignmentOp n i v d g) :=
  .bind (.flag _ fun _ => rfl) fun _ => .bind .get fun _ => built_callFunc

theorem built_panicOp (v : String) : Built (panicOp v) :=
  .bind (built_callEcho _) fun _ => .bind (.addLine rfl) fun _ => .addLine rfl

theorem built_writeFileOp (p c a : String) : Built (writeFileOp p c a) :=
  .bind (.flag _ fun _ => rfl) fun _ => built_callFunc

theorem built_programStart : Built programStart :=
  .bind (.addStartLine rfl) fun _ => .bind (.addStartLine rfl) fun _ => .bind (.addStartLine rfl) fun _ => .addStartLine rfl

end Tsh.Batch
