/-
  What the simulation of a statement concludes and how such conclusions compose: `Kept` (in step again, the caller's frame and the
  flags of the enclosing loops untouched), `Ends` (a run of shell code ends as the source did), `Adds` (what the converter did between
  two of its states).  Most statements are the lines of their expressions, then lines of their own (`stmtSemF_bind`).
-/
import TshVerif.Lemmas.Sem2Comb
namespace Tsh.Sem2
open Tsh Tsh.Tr Tsh.Bash Tsh.Sem Tsh.Sem2.Src
open Tsh.Sem.Src (Val Env)

-- `ρ.set x v y` is compared through `set_same`/`set_other` only: unfolded, the unifier evaluates the string comparison in its `if`
attribute [local irreducible] Store.set

variable {ctx : Ctx} {T : List FEntry} {B : Nat}

/-- Loop flags, in all three proofs.  Code translated from converter state `s` writes only flags `n ≥ s.forCounter`, so its claim (`SimF .. k`,
    `Sem.Sim`, `SemB.Sim`, at `k = s.forCounter`) keeps those with `n < k`.  A loop takes `n = s.forCounter` and translates its body from `n + 1`:
    that is `hkb : n < kb` of the three `loop_sim`s.  The lines added up to `s'` assign no flag from `s'.forCounter` on (`hi` of `LinesOK`, `mm` of
    `Adds`); that bounds a function body, and callers start at a floor `B` above it (`CtxOK.flags`): kept is `B ≤ n < k`, in the scalar proofs `B = 0`. -/
def FlagsKept (B k : Nat) (m m' : Cfg) : Prop := ∀ n, B ≤ n → n < k → m'.ρ (flagName n) = m.ρ (flagName n)

theorem FlagsKept.refl (B k : Nat) (m : Cfg) : FlagsKept B k m m := fun _ _ _ => rfl
theorem FlagsKept.trans {k k' : Nat} {a b c : Cfg} (h1 : FlagsKept B k a b) (h2 : FlagsKept B k' b c) (hk : k ≤ k') : FlagsKept B k a c :=
  fun n hB hn => by rw [h2 n hB (by omega), h1 n hB hn]
theorem FlagsKept.mono {k k' : Nat} {a b : Cfg} (h : FlagsKept B k' a b) (hk : k ≤ k') : FlagsKept B k a b :=
  fun n hB hn => h n hB (by omega)
theorem KeepE.flagsKept {lo k : Nat} {m m' : Cfg} (h : KeepE ctx B lo m m') : FlagsKept B k m m' :=
  fun n hB _ => h.flags n hB

theorem FlagsKept.set {k : Nat} (m : Cfg) {x : String} (w : String) (hx : ∀ n, x ≠ flagName n) :
    FlagsKept B k m { m with ρ := m.ρ.set x w } := by
  intro n _ _
  dsimp only
  exact Sem.set_other _ _ _ _ (fun e => hx n e.symm)

theorem FlagsKept.set_flag {k n : Nat} (m : Cfg) (w : String) (hn : k ≤ n) : FlagsKept B k m { m with ρ := m.ρ.set (flagName n) w } := by
  intro j _ hj
  dsimp only
  exact Sem.set_other _ _ _ _ (fun e => by have := flagName_inj e; omega)

theorem FlagsKept.of_same {k n : Nat} {m m' : Cfg} (h : ∀ x, x ≠ flagName n → m'.ρ x = m.ρ x) (hn : k ≤ n) : FlagsKept B k m m' :=
  fun j _ hj => h _ (fun e => by have := flagName_inj e; omega)

theorem Inv.out {c : SCfg} {m : Cfg} (h : Inv ctx T c m) : c.out = m.out := h.agree.out

theorem Inv.echo {c : SCfg} {m : Cfg} (h : Inv ctx T c m) (l : String) :
    Inv ctx T { c with out := c.out ++ [l] } { m with out := m.out ++ [l] } :=
  ⟨⟨h.agree.inFn, congrArg (· ++ [l]) h.out, h.agree.glob, h.agree.loc, ⟨h.agree.hp.dvc, h.agree.hp.heap, h.agree.hp.fresh⟩⟩, h.tables⟩

theorem Inv.write {c : SCfg} {m : Cfg} (h : Inv ctx T c m) (x : Var) (v : Val) (hx : goodName2 x.name = true) :
    Inv ctx T (writeVar c x v) { m with ρ := m.ρ.set (ctx.mg x.name x.global) v.render } := by
  refine ⟨h.agree.write x v hx, ?_⟩
  obtain ⟨Tr, a, b, c', d⟩ := h.tables
  refine ⟨Tr, a, b, ?_, d⟩
  simp only [writeVar]
  split <;> exact c'

structure Kept (ctx : Ctx) (T : List FEntry) (B k : Nat) (c' : SCfg) (m m' : Cfg) : Prop where
  inv : Inv ctx T c' m'
  ctl : Ctl m m'
  flags : FlagsKept B k m m'

theorem Kept.mono {k k' : Nat} {c' : SCfg} {m m' : Cfg} (h : Kept ctx T B k' c' m m') (hk : k ≤ k') :
    Kept ctx T B k c' m m' :=
  ⟨h.inv, h.ctl, h.flags.mono hk⟩

theorem Kept.trans {k k' : Nat} {c1 c2 : SCfg} {m m1 m2 : Cfg}
    (h1 : Kept ctx T B k c1 m m1) (h2 : Kept ctx T B k' c2 m1 m2) (hk : k ≤ k') : Kept ctx T B k c2 m m2 :=
  ⟨h2.inv, h1.ctl.trans h2.ctl, h1.flags.trans h2.flags hk⟩

/-- `Ends` (below) with `run := ExecCmds cmds m`, written out -/
def SimF (ctx : Ctx) (T : List FEntry) (B : Nat) (src : Nat → SCfg → Option (SOut × SCfg)) (cmds : List Cmd) (k : Nat) : Prop :=
  ∀ fuel c o c', src fuel c = some (o, c') → ∀ m, Inv ctx T c m →
    ∃ m' o', ExecCmds cmds m o' m' ∧ OutRel o o' ∧ c'.out = m'.out ∧
      ((∀ j, o ≠ .exit j) → Kept ctx T B k c' m m') ∧ (∀ vs, o = .ret vs → ValsRv 0 vs m'.ρ)

def outOf : SOut → Out
  | .normal => .normal
  | .brk => .brk
  | .cont => .cont
  | .ret _ => .ret
  | .exit k => .exit k

theorem OutRel.eq {o : SOut} {o' : Out} (h : OutRel o o') : o' = outOf o := by
  cases o <;> cases o' <;> simp [OutRel, outOf] at h ⊢
  exact h.symm

theorem outRel_outOf (o : SOut) : OutRel o (outOf o) := by
  cases o <;> simp [OutRel, outOf]

theorem outOf_normal {o : SOut} : outOf o = .normal ↔ o = .normal := by
  cases o <;> simp [outOf]

/-- a run of shell code from `m` ends as the source did; `run` is `ExecCmds cmds m`, `ExecElifs ..`, `ExecLoop ..` -/
def Ends (ctx : Ctx) (T : List FEntry) (B k : Nat) (run : Out → Cfg → Prop) (o : SOut) (c' : SCfg) (m : Cfg) : Prop :=
  ∃ m' o', run o' m' ∧ OutRel o o' ∧ c'.out = m'.out ∧
    ((∀ j, o ≠ .exit j) → Kept ctx T B k c' m m') ∧ (∀ vs, o = .ret vs → ValsRv 0 vs m'.ρ)

section
variable {k k' : Nat} {run run' : Out → Cfg → Prop} {o : SOut} {c1 c' : SCfg} {m m1 m' : Cfg}

theorem Ends.intro (ex : run (outOf o) m') (ho : c'.out = m'.out) (hk : (∀ j, o ≠ .exit j) → Kept ctx T B k c' m m')
    (hv : ∀ vs, o = .ret vs → ValsRv 0 vs m'.ρ) : Ends ctx T B k run o c' m :=
  ⟨m', _, ex, outRel_outOf o, ho, hk, hv⟩

theorem Ends.elim (h : Ends ctx T B k run o c' m) :
    ∃ m', run (outOf o) m' ∧ c'.out = m'.out ∧ ((∀ j, o ≠ .exit j) → Kept ctx T B k c' m m') ∧ (∀ vs, o = .ret vs → ValsRv 0 vs m'.ρ) := by
  obtain ⟨m', o', ex, hr, rest⟩ := h
  cases hr.eq
  exact ⟨m', ex, rest⟩

theorem Ends.exit {j : Nat} (ex : run (.exit j) m') (ho : c'.out = m'.out) : Ends ctx T B k run (.exit j) c' m :=
  .intro ex ho (fun hne => absurd rfl (hne j)) nofun

theorem Ends.normal (ex : run .normal m') (hk : Kept ctx T B k c' m m') : Ends ctx T B k run .normal c' m :=
  .intro ex hk.inv.agree.out (fun _ => hk) nofun

theorem Ends.refl (ex : run .normal m) (hi : Inv ctx T c' m) : Ends ctx T B k run .normal c' m :=
  .normal ex ⟨hi, Ctl.refl m, FlagsKept.refl _ _ m⟩

theorem Ends.normal_elim (h : Ends ctx T B k run .normal c' m) : ∃ m', run .normal m' ∧ Kept ctx T B k c' m m' := by
  obtain ⟨m', ex, _, hk, _⟩ := h.elim
  exact ⟨m', ex, hk nofun⟩

theorem Ends.imp (h : Ends ctx T B k run o c' m) (f : ∀ {m'}, run (outOf o) m' → run' (outOf o) m') (hk : k' ≤ k) :
    Ends ctx T B k' run' o c' m := by
  obtain ⟨m', ex, ho, hkk, hv⟩ := h.elim
  exact .intro (f ex) ho (fun hne => (hkk hne).mono hk) hv

theorem Ends.after (h1 : Kept ctx T B k c1 m m1) (h : Ends ctx T B k' run o c' m1) (f : ∀ {m'}, run (outOf o) m' → run' (outOf o) m')
    (hk : k ≤ k') : Ends ctx T B k run' o c' m := by
  obtain ⟨m', ex, ho, hkk, hv⟩ := h.elim
  exact .intro (f ex) ho (fun hne => h1.trans (hkk hne) hk) hv

end

def StmtSemF (ctx : Ctx) (T : List FEntry) (B : Nat) (src : Nat → SCfg → Option (SOut × SCfg)) (s s' : St) : Prop :=
  ∃ cmds n mm rq, s' = reqSt (adv2 s (flats cmds).reverse n mm) rq ∧ LinesOK ctx (s.forCounter + mm) (tnames T) (flats cmds) ∧
    SimF ctx T B src cmds s.forCounter

theorem ctxOf_adv2 (s : St) (new : List Line) (n mm : Nat) : ctxOf (adv2 s new n mm) = ctxOf s := rfl

/-- from `s` to `s'` the converter added the lines `ls` (in the order of the script) and used `mm` more loop flags -/
def Adds (ctx : Ctx) (T : List FEntry) (s s' : St) (ls : List Line) (mm : Nat) : Prop :=
  ∃ n rq, s' = reqSt (adv2 s ls.reverse n mm) rq ∧ LinesOK ctx (s.forCounter + mm) (tnames T) ls

section
variable {s s1 s' : St} {ls ls' : List Line} {mm mm' : Nat}

theorem Adds.ctxOf (a : Adds ctx T s s' ls mm) : ctxOf s' = ctxOf s := by
  obtain ⟨_, _, rfl, _⟩ := a; rfl

theorem Adds.forCounter (a : Adds ctx T s s' ls mm) : s'.forCounter = s.forCounter + mm := by
  obtain ⟨_, _, rfl, _⟩ := a; rfl

theorem Adds.fors (a : Adds ctx T s s' ls mm) : s'.fors = s.fors := by
  obtain ⟨_, _, rfl, _⟩ := a; rfl

theorem Adds.le (a : Adds ctx T s s' ls mm) : s.forCounter ≤ s'.forCounter :=
  a.forCounter ▸ Nat.le_add_right _ _

theorem Adds.refl (ctx : Ctx) (T : List FEntry) (s : St) : Adds ctx T s s [] 0 :=
  ⟨0, Req.none, (reqSt_none _).symm, LinesOK.nil _ _ _⟩

theorem Adds.trans (a : Adds ctx T s s1 ls mm) (b : Adds ctx T s1 s' ls' mm') : Adds ctx T s s' (ls ++ ls') (mm + mm') := by
  obtain ⟨n1, r1, rfl, h1⟩ := a
  obtain ⟨n2, r2, rfl, h2⟩ := b
  exact ⟨n1 + n2, r1.or r2, List.reverse_append ▸ adv3_comp s _ _ n1 mm 0 n2 mm' 0 r1 r2,
    (h1.mono (Nat.add_le_add_left (Nat.le_add_right _ _) _)).append (h2.mono (Nat.le_of_eq (Nat.add_assoc _ _ _)))⟩

theorem Adds.code (e : s' = { s with code := ls.reverse ++ s.code }) (hl : LinesOK ctx s.forCounter (tnames T) ls) : Adds ctx T s s' ls 0 :=
  ⟨0, Req.none, by rw [e, reqSt_none]; rfl, hl⟩

theorem Adds.line {l : Line} (h : addLine l s = .ok ((), s')) (hl : SLine ctx s.forCounter (tnames T) l) : Adds ctx T s s' [l] 0 :=
  .code (addLine_adv2 h) (.cons hl (.nil _ _ _))

theorem Adds.expr {new : List Line} {n : Nat} {rq : Req} (e : s' = reqSt (adv s new n) rq) (hl : LinesOK ctx 0 (tnames T) new) :
    Adds ctx T s s' new.reverse 0 :=
  ⟨n, rq, by rw [e, List.reverse_reverse]; rfl, hl.reverse.mono (Nat.zero_le _)⟩

theorem Adds.cast (a : Adds ctx T s s' ls mm) (e : ls' = ls) : Adds ctx T s s' ls' mm := e ▸ a

theorem StmtSemF.adds {src} (h : StmtSemF ctx T B src s s') :
    ∃ cmds mm, Adds ctx T s s' (flats cmds) mm ∧ SimF ctx T B src cmds s.forCounter := by
  obtain ⟨cmds, n, mm, rq, e, hl, sim⟩ := h
  exact ⟨cmds, mm, ⟨n, rq, e, hl⟩, sim⟩

theorem StmtSemF.of_adds {src} {cmds : List Cmd} (a : Adds ctx T s s' ls mm) (e : flats cmds = ls)
    (sim : SimF ctx T B src cmds s.forCounter) : StmtSemF ctx T B src s s' := by
  subst e
  obtain ⟨n, rq, e, hl⟩ := a
  exact ⟨cmds, n, mm, rq, e, hl, sim⟩

end

theorem StmtSemF.forCounter {ctx : Ctx} {T : List FEntry} {B : Nat} {src} {s s' : St} (h : StmtSemF ctx T B src s s') : s.forCounter ≤ s'.forCounter := by
  obtain ⟨_, _, a, _⟩ := h.adds
  exact a.le

theorem sline_var (ctx : Ctx) (hi : Nat) (ds : List String) (l : Line) (x : Var) (hx : goodName2 x.name = true)
    (h1 : lineTargets l = [ctx.mg x.name x.global]) (h2 : isCall l = false) (h3 : isDefLine l = false := by rfl) : SLine ctx hi ds l :=
  sline_one ctx hi ds l (Or.inr (Or.inr (Or.inl ⟨x.name, x.global, hx, rfl⟩))) h1 h2 h3

theorem sline_flag (ctx : Ctx) (hi : Nat) (ds : List String) (l : Line) (n : Nat) (hn : n < hi)
    (h1 : lineTargets l = [flagName n]) (h2 : isCall l = false) (h3 : isDefLine l = false := by rfl) : SLine ctx hi ds l :=
  sline_one ctx hi ds l (Or.inr (Or.inr (Or.inr (Or.inr (Or.inl ⟨n, hn, rfl⟩))))) h1 h2 h3

theorem runs_ok {new : List Line} {lo n : Nat} {ts : List String} {m : Cfg} {os : List Opd} {c1 : SCfg}
    (h : Runs ctx T B new lo n ts m (.ok os c1)) :
    ∃ m1, ExecCmds (new.reverse.map Cmd.simple) m .normal m1 ∧ Inv ctx T c1 m1 ∧ Ctl m m1 ∧ KeepE ctx B lo m m1 ∧
      HoldsAllF ctx ts os (lo + n) m1.ρ := by
  obtain ⟨m1, a, b, c, d, e⟩ := h
  exact ⟨m1, a, b, c, d, e rfl⟩

theorem simF_bind {srcE : SEval}
    {src : Nat → SCfg → Option (SOut × SCfg)} {new : List Line} {lo n : Nat} {ts : List String} {post : List Cmd} {k : Nat}
    (sim : ESim ctx T B srcE new lo n ts)
    (h : ∀ fuel c o c', src fuel c = some (o, c') → Via srcE c exitS (o, c') fun os c1 =>
      ∀ m1, Inv ctx T c1 m1 → HoldsAllF ctx ts os (lo + n) m1.ρ → Ends ctx T B k (ExecCmds post m1) o c' m1) :
    SimF ctx T B src (new.reverse.map Cmd.simple ++ post) k := by
  intro fuel c o c' hs m hi
  rcases h fuel c o c' hs with ⟨f, j, c1, he, hr⟩ | ⟨f, os, c1, he, hpost⟩
  · cases hr
    obtain ⟨m1, ex, ho⟩ := sim.run f c _ he m hi
    exact Ends.exit (execCmds_stop_append _ ex (by simp)) ho
  · obtain ⟨m1, ex, hi1, hc1, hk1, hh⟩ := runs_ok (sim.run f c _ he m hi)
    exact Ends.after ⟨hi1, hc1, hk1.flagsKept⟩ (hpost m1 hi1 hh) (execCmds_append ex) (Nat.le_refl _)

theorem stmtSemF_bind {srcE : SEval} {src : Nat → SCfg → Option (SOut × SCfg)} {post : List Line} {ts : List String} {s s1 s' : St}
    (he : Emits ctx T B srcE s ts s1) (hpost : Adds ctx T s1 s' post 0)
    (h : ∀ fuel c o c', src fuel c = some (o, c') → Via srcE c exitS (o, c') fun os c1 =>
      ∀ m1, Inv ctx T c1 m1 → HoldsAllF ctx ts os s1.varCounter m1.ρ →
        Ends ctx T B s.forCounter (ExecCmds (post.map Cmd.simple) m1) o c' m1) :
    StmtSemF ctx T B src s s' := by
  obtain ⟨new, n, rq, rfl, sim⟩ := he
  exact .of_adds (cmds := new.reverse.map Cmd.simple ++ post.map Cmd.simple)
    ((Adds.expr rfl sim.lines).trans hpost) (by rw [flats_append, flats_simples, flats_simples]) (simF_bind sim h)

/-- a statement that is one line which leaves the configuration as it is (break, continue, the empty block) -/
theorem line_semF {l : Line} {src : Nat → SCfg → Option (SOut × SCfg)} {o : SOut}
    {s s' : St} (h : addLine l s = .ok ((), s')) (hl : lineTargets l = []) (hcall : isCall l = false) (hdef : isDefLine l = false)
    (hst : ∀ m, stepSimple l m = some (outOf o, m)) (hret : ∀ vs, o ≠ .ret vs)
    (hsrc : ∀ fuel c p, src fuel c = some p → p = (o, c)) : StmtSemF ctx T B src s s' := by
  refine .of_adds (cmds := [.simple l]) (.line h (sline_plain _ _ _ _ hl hcall hdef)) rfl ?_
  intro fuel c o1 c' hs m hi
  cases hsrc fuel c _ hs
  exact Ends.intro (execCmds_single (.simple hcall (hst m))) hi.out (fun _ => ⟨hi, Ctl.refl m, FlagsKept.refl _ _ m⟩)
    (fun vs hv => absurd hv (hret vs))

end Tsh.Sem2
