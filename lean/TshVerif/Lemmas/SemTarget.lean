/-
  The scalar fragment, for any target.  `Target` is what the proof needs to know of a target (its lines, what one line does,
  how an operand text is read, how the converter's state advances), `Source` what it needs of a source semantics.  On these
  alone: straight lines that compute into helper variables (`Runs`), the translation of an expression (`expr_full`), of lists
  of expressions, of definitions and assignments (`assign_sem`).  The rest is proved per target.
-/
import TshVerif.Lemmas.SemNames
import TshVerif.Lemmas.SrcVal
import TshVerif.Lemmas.Walk
namespace Tsh.Sem
open Tsh Tsh.Tr

/-- the store holds the rendered value of every variable of the environment; those are program variables -/
def Agree (env : Src.Env) (ρ : Store) : Prop := ∀ x v, env x = some v → goodName x = true ∧ ρ x = v.render

def FrameH (lo hi : Nat) (ρ ρ' : Store) : Prop := ∀ x, (∀ k, lo ≤ k → k < hi → x ≠ helperName k) → ρ' x = ρ x

theorem FrameH.refl (lo hi : Nat) (ρ : Store) : FrameH lo hi ρ ρ := fun _ _ => rfl

theorem FrameH.trans {a b c : Nat} {ρ ρ1 ρ2 : Store} (h1 : FrameH a b ρ ρ1) (h2 : FrameH b c ρ1 ρ2) (hab : a ≤ b) (hbc : b ≤ c) :
    FrameH a c ρ ρ2 := by
  intro x hx
  rw [h2 x (fun k h1' h2' => hx k (by omega) h2'), h1 x (fun k h1' h2' => hx k h1' (by omega))]

theorem Agree.congr {env : Src.Env} {ρ ρ' : Store} (ha : Agree env ρ) (h : ∀ x, goodName x = true → ρ' x = ρ x) : Agree env ρ' := by
  intro x v hx
  obtain ⟨hg, hv⟩ := ha x v hx
  exact ⟨hg, (h x hg).trans hv⟩

theorem FrameH.agree {lo hi : Nat} {ρ ρ' : Store} {env : Src.Env} (h : FrameH lo hi ρ ρ') (ha : Agree env ρ) : Agree env ρ' :=
  ha.congr fun x hg => h x fun k _ _ => good_ne_helper x k hg

theorem agree_set_flag {env : Src.Env} {ρ : Store} (n : Nat) (v : String) (h : Agree env ρ) : Agree env (ρ.set (flagName n) v) :=
  h.congr fun x hg => set_other _ _ _ _ (good_ne_flag x n hg)

theorem agree_set {env : Src.Env} {ρ : Store} (x : String) (v : Src.Val) (hx : goodName x = true) (h : Agree env ρ) :
    Agree (env.set x v) (ρ.set x v.render) := by
  intro y w hy
  by_cases e : y = x
  · subst e
    simp only [Src.Env.set, if_true, Option.some.injEq] at hy
    subst hy
    exact ⟨hx, set_same _ _ _⟩
  · simp only [Src.Env.set, e, if_false] at hy
    obtain ⟨hg, hv⟩ := h y w hy
    exact ⟨hg, by rw [set_other _ _ _ _ e]; exact hv⟩

def Own (ρ ρ' : Store) : Prop := ∀ x, goodName x = false → (∀ k, x ≠ helperName k) → (∀ i, x ≠ tmpName i) → ρ' x = ρ x

theorem Own.refl (ρ : Store) : Own ρ ρ := fun _ _ _ _ => rfl

theorem Own.trans {ρ ρ1 ρ2 : Store} (h1 : Own ρ ρ1) (h2 : Own ρ1 ρ2) : Own ρ ρ2 :=
  fun x a b c => (h2 x a b c).trans (h1 x a b c)

theorem FrameH.own {lo hi : Nat} {ρ ρ' : Store} (h : FrameH lo hi ρ ρ') : Own ρ ρ' := fun x _ hk _ => h x fun k _ _ => hk k

theorem Own.flag {ρ ρ' : Store} (h : Own ρ ρ') (j : Nat) : ρ' (flagName j) = ρ (flagName j) :=
  h _ (Bool.eq_false_iff.mpr fun hg => good_ne_flag _ j hg rfl) (flag_ne_helper j) (flag_ne_tmp j)

theorem own_set_good {ρ : Store} {x : String} (v : String) (hx : goodName x = true) : Own ρ (ρ.set x v) :=
  fun y hy _ _ => set_other _ _ _ _ fun e => by rw [e, hx] at hy; cases hy

structure Target where
  Line : Type
  σ : Type
  cv : Conv σ
  step : Line → Cfg → Option (Out × Cfg)
  /-- `Complete ρ t v`: wherever the text `t` stands, it is read as `v` -/
  Complete : Store → List Char → List Char → Prop
  /-- the text that reads a variable -/
  ref : String → String
  /-- the line that assigns a text to a variable -/
  setLine : String → String → Line
  /-- the converter is outside every function -/
  top : σ → Prop
  /-- the number of the next helper variable -/
  cnt : σ → Nat
  /-- `Adv s s' new n`: `s'` is `s` with the lines `new` (latest first) and `n` more helper variables -/
  Adv : σ → σ → List Line → Nat → Prop
  complete_nil : ∀ ρ, Complete ρ [] []
  complete_append : ∀ {ρ a va b vb}, Complete ρ a va → Complete ρ b vb → Complete ρ (a ++ b) (va ++ vb)
  complete_ref : ∀ ρ x, validName x.toList = true → Complete ρ (ref x).toList (ρ x).toList
  complete_bool : ∀ ρ b, Complete ρ (boolStr b).toList (boolStr b).toList
  complete_int : ∀ ρ (n : Int), Complete ρ (toString n).toList (toString n).toList
  step_set : ∀ {ρ t v} x out, Complete ρ t.toList v.toList → step (setLine x t) ⟨ρ, out⟩ = some (.normal, ⟨ρ.set x v, out⟩)
  adv_refl : ∀ s, Adv s s [] 0
  adv_trans : ∀ {s s1 s2 a b m n}, Adv s s1 a m → Adv s1 s2 b n → Adv s s2 (b ++ a) (m + n)
  adv_cnt : ∀ {s s' a n}, Adv s s' a n → cnt s' = cnt s + n
  adv_top : ∀ {s s' a n}, Adv s s' a n → top s → top s'

namespace Target
variable (T : Target)

/-- the text `t` reads as `v`, and goes on doing so while helper variables from `k` on are written -/
def Holds (t v : String) (k : Nat) (ρ : Store) : Prop :=
  ∀ ρ', (∀ x, (∀ j, k ≤ j → x ≠ helperName j) → ρ' x = ρ x) → T.Complete ρ' t.toList v.toList

def runLines : List T.Line → Cfg → Option Cfg
  | [], c => some c
  | l :: ls, c =>
      match T.step l c with
      | some (.normal, c') => runLines ls c'
      | _ => none

/-- from every store that agrees with `env` the lines `new` (latest first) run through silently, write only the helpers
    `k ≤ · < k + n` and establish `Q (k + n)` -/
def Runs (env : Src.Env) (k : Nat) (new : List T.Line) (n : Nat) (Q : Nat → Store → Prop) : Prop :=
  ∀ ρ out, Agree env ρ → ∃ ρ', T.runLines new.reverse ⟨ρ, out⟩ = some ⟨ρ', out⟩ ∧ FrameH k (k + n) ρ ρ' ∧ Q (k + n) ρ'

variable {T}

theorem runLines_append (a b : List T.Line) (c : Cfg) : T.runLines (a ++ b) c = (T.runLines a c).bind (T.runLines b) := by
  induction a generalizing c with
  | nil => rfl
  | cons l ls ih =>
    simp only [List.cons_append, runLines]
    cases h : T.step l c with
    | none => rfl
    | some p =>
      obtain ⟨o, c'⟩ := p
      cases o <;> simp [ih]

theorem runLines_more {a b : List T.Line} {c c1 c2 : Cfg} (h1 : T.runLines a.reverse c = some c1)
    (h2 : T.runLines b.reverse c1 = some c2) : T.runLines (b ++ a).reverse c = some c2 := by
  rw [List.reverse_append, runLines_append, h1]
  exact h2

theorem runLines_one {a : List T.Line} {l : T.Line} {c c1 c2 : Cfg} (h1 : T.runLines a.reverse c = some c1)
    (h2 : T.step l c1 = some (.normal, c2)) : T.runLines (l :: a).reverse c = some c2 :=
  runLines_more (b := [l]) h1 (by simp only [List.reverse_cons, List.reverse_nil, List.nil_append, runLines, h2])

theorem Holds.frame {t v : String} {k k' : Nat} {ρ ρ' : Store} (h : T.Holds t v k ρ) (hk : k ≤ k') (hf : FrameH k k' ρ ρ') :
    T.Holds t v k' ρ' := by
  intro ρ'' h''
  apply h
  intro x hx
  rw [h'' x (fun j hj => hx j (Nat.le_trans hk hj)), hf x (fun j h1 _ => hx j h1)]

theorem Holds.here {t v : String} {k : Nat} {ρ : Store} (h : T.Holds t v k ρ) : T.Complete ρ t.toList v.toList :=
  h ρ (fun _ _ => rfl)

theorem Holds.const {t v : String} (h : ∀ ρ, T.Complete ρ t.toList v.toList) (k : Nat) (ρ : Store) : T.Holds t v k ρ :=
  fun ρ' _ => h ρ'

theorem Holds.append {tl tr x y : String} {k : Nat} {ρ : Store} (hl : T.Holds tl x k ρ) (hr : T.Holds tr y k ρ) :
    T.Holds (tl ++ tr) (x ++ y) k ρ := by
  intro ρ' h'
  rw [String.toList_append, String.toList_append]
  exact T.complete_append (hl ρ' h') (hr ρ' h')

theorem holds_helper (k : Nat) (ρ : Store) (v : String) (h : ρ (helperName k) = v) : T.Holds (T.ref (helperName k)) v (k + 1) ρ := by
  intro ρ' h'
  rw [← h, ← h' _ (fun j hj e => Nat.ne_of_lt hj (helperName_inj e))]
  exact T.complete_ref ρ' _ (helperName_valid k)

theorem holds_var {env : Src.Env} {ρ : Store} {x : String} {v : Src.Val} (ha : Agree env ρ) (hx : env x = some v) (k : Nat) :
    T.Holds (T.ref x) v.render k ρ := by
  intro ρ' hρ'
  obtain ⟨hg, hv⟩ := ha x v hx
  rw [← hv, ← hρ' x (fun j _ => good_ne_helper x j hg)]
  exact T.complete_ref ρ' x ((Bool.and_eq_true _ _).mp hg).1

theorem Runs.nil {env : Src.Env} {k : Nat} {Q : Nat → Store → Prop} (h : ∀ ρ, Agree env ρ → Q k ρ) : T.Runs env k [] 0 Q :=
  fun ρ _ ha => ⟨ρ, rfl, FrameH.refl _ _ ρ, h ρ ha⟩

/-- `st`: what the first computation established must survive the helpers of the second -/
theorem Runs.seq {env : Src.Env} {k n1 n2 : Nat} {new1 new2 : List T.Line} {Q1 Q2 : Nat → Store → Prop}
    (h1 : T.Runs env k new1 n1 Q1) (h2 : T.Runs env (k + n1) new2 n2 Q2)
    (st : ∀ {j j' ρ ρ'}, Q1 j ρ → j ≤ j' → FrameH j j' ρ ρ' → Q1 j' ρ') :
    T.Runs env k (new2 ++ new1) (n1 + n2) (fun j ρ => Q1 j ρ ∧ Q2 j ρ) := by
  intro ρ out ha
  obtain ⟨ρ1, run1, fr1, q1⟩ := h1 ρ out ha
  obtain ⟨ρ2, run2, fr2, q2⟩ := h2 ρ1 out (fr1.agree ha)
  rw [← Nat.add_assoc]
  exact ⟨ρ2, runLines_more run1 run2, fr1.trans fr2 (Nat.le_add_right _ _) (Nat.le_add_right _ _), st q1 (Nat.le_add_right _ _) fr2, q2⟩

def Sets (T : Target) (line : T.Line) (h v : String) (ρ : Store) : Prop :=
  ∀ out, T.step line ⟨ρ, out⟩ = some (.normal, ⟨ρ.set h v, out⟩)

theorem Runs.step {env : Src.Env} {k n : Nat} {new : List T.Line} {Q : Nat → Store → Prop} {line : T.Line} {v : String}
    (h : T.Runs env k new n Q) (hstep : ∀ ρ, Q (k + n) ρ → T.Sets line (helperName (k + n)) v ρ) :
    T.Runs env k (line :: new) (n + 1) (T.Holds (T.ref (helperName (k + n))) v) := by
  intro ρ out ha
  obtain ⟨ρ1, run1, fr1, q1⟩ := h ρ out ha
  refine ⟨ρ1.set (helperName (k + n)) v, runLines_one run1 (hstep ρ1 q1 out), fun x hx => ?_, holds_helper _ _ _ (set_same _ _ _)⟩
  rw [set_other _ _ _ _ (hx _ (Nat.le_add_right _ _) (Nat.lt_succ_self _))]
  exact fr1 x (fun j h1 h2 => hx j h1 (Nat.lt_succ_of_lt h2))

/-- an operation wrote one line, which sets the next helper to what `R` gives for the operands' values, and returned its text: every scalar
    operation of both converters is `nextHelperVar` and one `addLine`.  One that needs two lines does not fit (`Sem2.Emits.op` with `PostRuns` does). -/
def OpLine (T : Target) (R : Src.Val → Src.Val → Src.Val → Prop) (l r t : String) (s s' : T.σ) : Prop :=
  ∃ line, t = T.ref (helperName (T.cnt s)) ∧ T.Adv s s' [line] 1 ∧
    ∀ a b v, R a b v → ∀ k ρ, T.Holds l a.render k ρ → T.Holds r b.render k ρ → T.Sets line (helperName (T.cnt s)) v.render ρ

/-- the claim about a translator computation `X` for an expression whose source value is `V` -/
def ExprFull (T : Target) (X : EM T.σ (List String)) (V : Src.Env → Option Src.Val) : Prop :=
  ∀ s r s', T.top s → X s = .ok (r, s') →
    ∃ t new n, r = [t] ∧ T.Adv s s' new n ∧ ∀ env v, V env = some v → T.Runs env (T.cnt s) new n (T.Holds t v.render)

theorem ExprFull.const {t : String} {V : Src.Env → Option Src.Val}
    (h : ∀ env v, V env = some v → ∀ ρ, T.Complete ρ t.toList v.render.toList) : T.ExprFull (pure [t]) V := by
  intro s r s' _ hc
  obtain ⟨rfl, rfl⟩ := EM.pure_ok hc
  exact ⟨t, [], 0, rfl, T.adv_refl _, fun env v hv => .nil fun ρ _ => .const (h env v hv) _ ρ⟩

theorem ExprFull.same {V W : Src.Env → Option Src.Val} {X : EM T.σ (List String)} (hx : T.ExprFull X W)
    (hsrc : ∀ {env v}, V env = some v → ∃ w, W env = some w ∧ v.render = w.render) :
    T.ExprFull (do let r ← X; pure [firstValue r]) V := by
  intro s r s' h0 hc
  obtain ⟨a, s1, ha, hc⟩ := EM.bind_ok hc
  obtain ⟨rfl, rfl⟩ := EM.pure_ok hc
  obtain ⟨t, new, k, rfl, e, sem⟩ := hx s a _ h0 ha
  refine ⟨t, new, k, rfl, e, fun env v hv => ?_⟩
  obtain ⟨w, hw, e⟩ := hsrc hv
  exact e ▸ sem env w hw

/-- the shape of the binary arms of `Tr.evalExpr`.  `op` takes the result lists `a`, `b` whole (the arm passes their first texts to the
    converter), so that unification finds it from the arm -/
theorem ExprFull.op {R : Src.Val → Src.Val → Src.Val → Prop} {V Vl Vr : Src.Env → Option Src.Val} {X Y : EM T.σ (List String)}
    {op : List String → List String → EM T.σ String} (hx : T.ExprFull X Vl) (hy : T.ExprFull Y Vr)
    (hop : ∀ {l r t s s'}, T.top s → op [l] [r] s = .ok (t, s') → T.OpLine R l r t s s')
    (hsrc : ∀ {env v}, V env = some v → ∃ x y, Vl env = some x ∧ Vr env = some y ∧ R x y v) :
    T.ExprFull (do let a ← X; let b ← Y; let t ← op a b; pure [t]) V := by
  intro s res s' h0 hc
  obtain ⟨a, s1, ha, hc⟩ := EM.bind_ok hc
  obtain ⟨b, s2, hb, hc⟩ := EM.bind_ok hc
  obtain ⟨t, s3, ho, hc⟩ := EM.bind_ok hc
  obtain ⟨rfl, rfl⟩ := EM.pure_ok hc
  obtain ⟨tl, newl, nl, rfl, al, seml⟩ := hx s a s1 h0 ha
  obtain ⟨tr, newr, nr, rfl, ar, semr⟩ := hy s1 b s2 (T.adv_top al h0) hb
  obtain ⟨line, rfl, ao, hline⟩ := hop (T.adv_top ar (T.adv_top al h0)) ho
  refine ⟨_, line :: (newr ++ newl), nl + nr + 1, rfl, T.adv_trans (T.adv_trans al ar) ao, fun env v hv => ?_⟩
  obtain ⟨x, y, hx, hy, hxy⟩ := hsrc hv
  have e : T.cnt s2 = T.cnt s + (nl + nr) := by rw [T.adv_cnt ar, T.adv_cnt al, Nat.add_assoc]
  have sr := semr env y hy
  rw [T.adv_cnt al] at sr
  rw [e] at hline ⊢
  exact ((seml env x hx).seq sr Holds.frame).step (fun ρ ⟨h1, h2⟩ => hline x y v hxy _ ρ h1 h2)

end Target

/-- A source semantics of the scalar fragment: `Sem/Src` and `Sem/Src32` differ in four parameters and evaluate by the same
    equations, each by unfolding: an instance gives the seven functions only. -/
structure Source where
  okInt : Int → Bool
  okStr : String → Bool
  bin : ValueType → String → Src.Val → Src.Val → Option Src.Val
  cmp : ValueType → String → Src.Val → Src.Val → Option Src.Val
  evalE : Src.Env → Expr → Option Src.Val
  evalL : Src.Env → List Expr → Option (List Src.Val)
  evalC : Src.Env → List (Expr × List Stmt) → Option (List Bool)
  boolLit : ∀ env b, evalE env (.boolLit b) = some (.bool b) := by intros; rfl
  intLit : ∀ env n, evalE env (.intLit n) = if okInt n then some (.int n) else none := by intros; rfl
  strLit : ∀ env s, evalE env (.strLit s) = if okStr s then some (.str s) else none := by intros; rfl
  varEval : ∀ env x, evalE env (.varEval x) = env x.name := by intros; rfl
  unary : ∀ env op e vt, evalE env (.unary op e vt) =
    if op == "!" then (match evalE env e with | some (.bool b) => some (.bool (!b)) | _ => none) else none := by intros; rfl
  binary : ∀ env op l r, evalE env (.binary op l r) =
    (match evalE env l, evalE env r with | some a, some b => bin (Expr.valueType l) op a b | _, _ => none) := by intros; rfl
  compare : ∀ env op l r, evalE env (.compare op l r) =
    (match evalE env l, evalE env r with | some a, some b => cmp (Expr.valueType l) op a b | _, _ => none) := by intros; rfl
  logical : ∀ env op l r, evalE env (.logical op l r) =
    (match evalE env l, evalE env r with
    | some (.bool a), some (.bool b) => if op == "&&" then some (.bool (a && b)) else if op == "||" then some (.bool (a || b)) else none
    | _, _ => none) := by intros; rfl
  group : ∀ env e, evalE env (.group e) = evalE env e := by intros; rfl
  itoa : ∀ env e, evalE env (.itoa e) = (match evalE env e with | some (.int n) => some (.str (toString n)) | _ => none) := by intros; rfl
  evalL_nil : ∀ env, evalL env [] = some [] := by intros; rfl
  evalL_cons : ∀ env e rest, evalL env (e :: rest) =
    (match evalE env e, evalL env rest with | some v, some vs => some (v :: vs) | _, _ => none) := by intros; rfl
  evalC_nil : ∀ env, evalC env [] = some [] := by intros; rfl
  evalC_cons : ∀ env c b rest, evalC env ((c, b) :: rest) =
    (match evalE env c, evalC env rest with | some (.bool b), some bs => some (b :: bs) | _, _ => none) := by intros; rfl

namespace Source
variable (S : Source)

theorem unary_some {env : Src.Env} {op : String} {x : Expr} {vt : ValueType} {v : Src.Val}
    (h : S.evalE env (.unary op x vt) = some v) : ∃ b, S.evalE env x = some (.bool b) ∧ v = .bool (!b) := by
  rw [S.unary] at h
  split at h
  · split at h
    · cases h; exact ⟨_, ‹_›, rfl⟩
    · cases h
  · cases h

theorem itoa_some {env : Src.Env} {x : Expr} {v : Src.Val} (h : S.evalE env (.itoa x) = some v) :
    ∃ n, S.evalE env x = some (.int n) ∧ v = .str (toString n) := by
  rw [S.itoa] at h
  split at h
  · cases h; exact ⟨_, ‹_›, rfl⟩
  · cases h

theorem binary_some {env : Src.Env} {op : String} {l r : Expr} {v : Src.Val} (h : S.evalE env (.binary op l r) = some v) :
    ∃ a b, S.evalE env l = some a ∧ S.evalE env r = some b ∧ S.bin (Expr.valueType l) op a b = some v := by
  rw [S.binary] at h
  split at h
  · exact ⟨_, _, ‹_›, ‹_›, h⟩
  · cases h

theorem compare_some {env : Src.Env} {op : String} {l r : Expr} {v : Src.Val} (h : S.evalE env (.compare op l r) = some v) :
    ∃ a b, S.evalE env l = some a ∧ S.evalE env r = some b ∧ S.cmp (Expr.valueType l) op a b = some v := by
  rw [S.compare] at h
  split at h
  · exact ⟨_, _, ‹_›, ‹_›, h⟩
  · cases h

theorem logical_some {env : Src.Env} {op : String} {l r : Expr} {v : Src.Val} (h : S.evalE env (.logical op l r) = some v) :
    ∃ a b, S.evalE env l = some a ∧ S.evalE env r = some b ∧ logVal op a b = some v := by
  rw [S.logical] at h
  split at h
  · exact ⟨.bool _, .bool _, ‹_›, ‹_›, h⟩
  · cases h

theorem evalL_some {env : Src.Env} {e : Expr} {rest : List Expr} {vs : List Src.Val} (h : S.evalL env (e :: rest) = some vs) :
    ∃ v vs', S.evalE env e = some v ∧ S.evalL env rest = some vs' ∧ vs = v :: vs' := by
  rw [S.evalL_cons] at h
  split at h
  · cases h; exact ⟨_, _, ‹_›, ‹_›, rfl⟩
  · cases h

theorem evalL_length : ∀ (es : List Expr) (env : Src.Env) (vs : List Src.Val), S.evalL env es = some vs → vs.length = es.length
  | [], _, _, h => by cases (S.evalL_nil _).symm.trans h; rfl
  | _ :: rest, env, _, h => by
    obtain ⟨_, vs', _, hvs, rfl⟩ := S.evalL_some h
    exact congrArg (· + 1) (evalL_length rest env vs' hvs)

theorem evalC_some {env : Src.Env} {cnd : Expr} {body : List Stmt} {rest : List (Expr × List Stmt)} {bs : List Bool}
    (h : S.evalC env ((cnd, body) :: rest) = some bs) :
    ∃ b bs', S.evalE env cnd = some (.bool b) ∧ S.evalC env rest = some bs' ∧ bs = b :: bs' := by
  rw [S.evalC_cons] at h
  split at h
  · cases h; exact ⟨_, _, ‹_›, ‹_›, rfl⟩
  · cases h

theorem evalC_length : ∀ {elifs : List (Expr × List Stmt)} {env : Src.Env} {bs : List Bool},
    S.evalC env elifs = some bs → bs.length = elifs.length
  | [], _, _, h => by cases (S.evalC_nil _).symm.trans h; rfl
  | (_, _) :: _, _, _, h => by
    obtain ⟨_, _, _, hbs, rfl⟩ := S.evalC_some h
    exact congrArg (· + 1) (evalC_length hbs)

end Source

namespace Target
variable {T : Target} {S : Source}

/-- what the converter of the target does in the fragment, outside a function -/
structure Ops (T : Target) (S : Source) : Prop where
  strLit : ∀ lit, T.ExprFull (do let v ← T.cv.stringToString lit; pure [v]) fun _ => if S.okStr lit then some (.str lit) else none
  varEval : ∀ x u g s, T.top s → T.cv.varEvaluation x u g s = .ok (T.ref x, s)
  varDef : ∀ {x t g s s'}, T.top s → T.cv.varDefinition x t g s = .ok ((), s') → T.Adv s s' [T.setLine x t] 0
  /-- `r`: any text; `!e` is an operation that ignores its right operand, so that `ExprFull.op` serves it -/
  unary : ∀ {e r op vt u t s s'}, T.top s → T.cv.unaryOperation e op vt u s = .ok (t, s') →
    T.OpLine (fun a _ v => ∃ x, a = .bool x ∧ v = .bool (!x)) e r t s s'
  binary : ∀ {l op r vt u t s s'}, T.top s → T.cv.binaryOperation l op r vt u s = .ok (t, s') →
    T.OpLine (fun a b v => S.bin vt op a b = some v) l r t s s'
  compare : ∀ {l op r vt u t s s'}, T.top s → T.cv.comparison l op r vt u s = .ok (t, s') →
    T.OpLine (fun a b v => S.cmp vt op a b = some v) l r t s s'
  logical : ∀ {l op r vt u t s s'}, T.top s → T.cv.logicalOperation l op r vt u s = .ok (t, s') →
    T.OpLine (fun a b v => logVal op a b = some v) l r t s s'

theorem expr_full (C : T.Ops S) (e : Expr) (hf : Src.fragExpr e = true) (used : Bool) :
    T.ExprFull (Tr.evalExpr T.cv e used) (fun env => S.evalE env e) := by
  -- the clauses of `Src.fragExpr`: 1-4 boolLit intLit strLit varEval, 5-10 unary binary compare logical group itoa, 11 any other
  fun_induction Src.fragExpr e generalizing used with
  | case1 b =>
    unfold Tr.evalExpr
    exact .const fun env v hv ρ => by rw [S.boolLit] at hv; cases hv; exact T.complete_bool ρ b
  | case2 n =>
    unfold Tr.evalExpr
    refine .const fun env v hv ρ => ?_
    rw [S.intLit] at hv
    split at hv
    · cases hv; exact T.complete_int ρ n
    · cases hv
  | case3 lit =>
    unfold Tr.evalExpr
    simp only [S.strLit]
    exact C.strLit lit
  | case4 x =>
    intro s r s' h0 hc
    unfold Tr.evalExpr at hc
    rw [EM.bind_run (C.varEval x.name used x.global s h0)] at hc
    obtain ⟨rfl, rfl⟩ := EM.pure_ok hc
    exact ⟨_, [], 0, rfl, T.adv_refl _, fun env v hv => .nil fun ρ ha => holds_var ha (S.varEval env x ▸ hv) _⟩
  | case5 op x vt ih =>
    unfold Tr.evalExpr
    -- `Y`: a dummy right operand, see `Ops.unary`
    refine ExprFull.op (Y := pure [""]) (Vr := fun _ => some (.str "")) (op := fun a _ => T.cv.unaryOperation (firstValue a) op _ used)
      (ih hf true) (.const fun _ v hv ρ => by cases hv; exact T.complete_nil ρ) C.unary fun hv => ?_
    obtain ⟨b, hx, rfl⟩ := S.unary_some hv
    exact ⟨_, _, hx, rfl, b, rfl, rfl⟩
  | case6 op l r ihl ihr =>
    obtain ⟨hfl, hfr⟩ := (Bool.and_eq_true _ _).mp hf
    unfold Tr.evalExpr
    exact .op (ihl hfl true) (ihr hfr true) C.binary S.binary_some
  | case7 op l r ihl ihr =>
    obtain ⟨hfl, hfr⟩ := (Bool.and_eq_true _ _).mp hf
    unfold Tr.evalExpr
    exact .op (ihl hfl true) (ihr hfr true) C.compare S.compare_some
  | case8 op l r ihl ihr =>
    obtain ⟨hfl, hfr⟩ := (Bool.and_eq_true _ _).mp hf
    unfold Tr.evalExpr
    exact .op (ihl hfl true) (ihr hfr true) C.logical S.logical_some
  | case9 x ih =>
    unfold Tr.evalExpr
    simp only [S.group]
    exact ih hf used
  | case10 x ih =>
    unfold Tr.evalExpr
    refine .same (ih hf true) fun hv => ?_
    obtain ⟨n, hx, rfl⟩ := S.itoa_some hv
    exact ⟨_, hx, rfl⟩
  | case11 => cases hf

def HoldsAll (T : Target) : List String → List String → Nat → Store → Prop
  | [], [], _, _ => True
  | t :: ts, v :: vs, k, ρ => T.Holds t v k ρ ∧ HoldsAll T ts vs k ρ
  | _, _, _, _ => False

theorem HoldsAll.frame : ∀ {ts vs : List String} {k k' : Nat} {ρ ρ' : Store}, T.HoldsAll ts vs k ρ → k ≤ k' → FrameH k k' ρ ρ' →
    T.HoldsAll ts vs k' ρ'
  | [], [] => fun _ _ _ => trivial
  | _ :: _, _ :: _ => fun h hk hf => ⟨h.1.frame hk hf, HoldsAll.frame h.2 hk hf⟩
  | [], _ :: _ => fun h _ _ => h.elim
  | _ :: _, [] => fun h _ _ => h.elim

theorem holdsAll_intercalate (hsp : ∀ ρ, T.Complete ρ [' '] [' ']) : ∀ {ts vs : List String} {k : Nat} {ρ : Store},
    T.HoldsAll ts vs k ρ → T.Complete ρ (" ".intercalate ts).toList (" ".intercalate vs).toList
  | [], [], _, ρ, _ => T.complete_nil ρ
  | [t], [v], _, _, h => by simpa using h.1.here
  | t :: t2 :: ts, v :: v2 :: vs, k, ρ, h => by
    rw [String.intercalate_cons_cons, String.intercalate_cons_cons]
    simp only [String.toList_append]
    exact T.complete_append (T.complete_append h.1.here (hsp ρ)) (holdsAll_intercalate hsp h.2)
  | [], _ :: _, _, _, h => h.elim
  | _ :: _, [], _, _, h => h.elim
  | [_], _ :: _ :: _, _, _, h => h.2.elim
  | _ :: _ :: _, [_], _, _, h => h.2.elim

theorem evalAll_sem (C : T.Ops S) : ∀ (es : List Expr) (s : T.σ) (vals : List String) (s' : T.σ), (es.all Src.fragExpr) = true →
    T.top s → evalAll T.cv es s = .ok (vals, s') → ∃ new n, T.Adv s s' new n ∧
      ∀ env vs, S.evalL env es = some vs → T.Runs env (T.cnt s) new n (T.HoldsAll vals (vs.map Src.Val.render)) := by
  intro es
  induction es with
  | nil =>
    intro s vals s' _ _ h
    unfold evalAll at h
    obtain ⟨rfl, rfl⟩ := EM.pure_ok h
    exact ⟨[], 0, T.adv_refl _, fun env vs hs => by cases (S.evalL_nil _).symm.trans hs; exact Runs.nil fun _ _ => trivial⟩
  | cons e rest ih =>
    intro s vals s' hf h0 h
    unfold evalAll at h
    obtain ⟨hfe, hfr⟩ := (Bool.and_eq_true _ _).mp (List.all_cons ▸ hf)
    obtain ⟨r, s1, h1, h⟩ := EM.bind_ok h
    obtain ⟨rs, s2, h2, h⟩ := EM.bind_ok h
    obtain ⟨rfl, rfl⟩ := EM.pure_ok h
    obtain ⟨t, new1, n1, rfl, ad1, sem1⟩ := expr_full C e hfe true s r s1 h0 h1
    obtain ⟨new2, n2, ad2, sem2⟩ := ih s1 rs _ hfr (T.adv_top ad1 h0) h2
    refine ⟨new2 ++ new1, n1 + n2, T.adv_trans ad1 ad2, fun env vs hs => ?_⟩
    obtain ⟨v, vs', hv, hvs, rfl⟩ := S.evalL_some hs
    exact (sem1 env v hv).seq (T.adv_cnt ad1 ▸ sem2 env vs' hvs) Holds.frame

theorem conds_sem (C : T.Ops S) : ∀ (elifs : List (Expr × List Stmt)) (s : T.σ) (ecs : List String) (s' : T.σ),
    (elifs.all (fun p => Src.fragExpr p.1)) = true → T.top s →
    evalConds T.cv elifs s = .ok (ecs, s') → ∃ new n, T.Adv s s' new n ∧ ecs.length = elifs.length ∧
      ∀ env bs, S.evalC env elifs = some bs → T.Runs env (T.cnt s) new n (T.HoldsAll ecs (bs.map boolStr)) := by
  intro elifs
  induction elifs with
  | nil =>
    intro s ecs s' _ _ h
    unfold evalConds at h
    obtain ⟨rfl, rfl⟩ := EM.pure_ok h
    exact ⟨[], 0, T.adv_refl _, rfl, fun env bs hs => by cases (S.evalC_nil _).symm.trans hs; exact Runs.nil fun _ _ => trivial⟩
  | cons p rest ih =>
    obtain ⟨cnd, body⟩ := p
    intro s ecs s' hf h0 h
    unfold evalConds at h
    obtain ⟨hfc, hfr⟩ := (Bool.and_eq_true _ _).mp (List.all_cons ▸ hf)
    obtain ⟨r, s1, h1, h⟩ := EM.bind_ok h
    obtain ⟨rs, s2, h2, h⟩ := EM.bind_ok h
    obtain ⟨rfl, rfl⟩ := EM.pure_ok h
    obtain ⟨t, new1, n1, rfl, ad1, sem1⟩ := expr_full C cnd hfc true s r s1 h0 h1
    obtain ⟨new2, n2, ad2, hlen, sem2⟩ := ih s1 rs _ hfr (T.adv_top ad1 h0) h2
    refine ⟨new2 ++ new1, n1 + n2, T.adv_trans ad1 ad2, congrArg (· + 1) hlen, fun env bs hs => ?_⟩
    obtain ⟨b, bs', hv, hvs, rfl⟩ := S.evalC_some hs
    exact (sem1 env _ hv).seq (T.adv_cnt ad1 ▸ sem2 env bs' hvs) Holds.frame

/-- straight lines that do what `src` does, which ends normally -/
def LinesSem (T : Target) (src : Nat → Src.SCfg → Option (Out × Src.SCfg)) (s s' : T.σ) : Prop :=
  ∃ new n, T.Adv s s' new n ∧ ∀ fuel c o c', src fuel c = some (o, c') → ∀ ρ, Agree c.env ρ →
    ∃ ρ', T.runLines new.reverse ⟨ρ, c.out⟩ = some ⟨ρ', c'.out⟩ ∧ o = .normal ∧ Agree c'.env ρ' ∧ Own ρ ρ'

end Target

theorem assign1_run {σ : Type} {cv : Conv σ} {x : Var} {e : Expr} {s s' : σ} {a : Unit}
    (h : assignValues cv [x] [e] s = .ok (a, s')) :
    ∃ r s1, Tr.evalExpr cv e true s = .ok (r, s1) ∧ cv.varDefinition x.name (firstValue r) x.global s1 = .ok ((), s') := by
  obtain ⟨values, s2, h1, h2⟩ := EM.bind_ok (x := assignedValues cv 1 [e] 1 0) h
  rw [assignedValues] at h1
  obtain ⟨r, s1, hr, h1⟩ := EM.bind_ok h1
  rw [if_neg (Nat.lt_irrefl 1)] at h1
  obtain ⟨_, _, hv, h1⟩ := EM.bind_ok h1
  obtain ⟨rfl, rfl⟩ := EM.pure_ok hv
  rw [assignedValues] at h1
  obtain ⟨_, _, hvs, h1⟩ := EM.bind_ok h1
  obtain ⟨rfl, rfl⟩ := EM.pure_ok hvs
  obtain ⟨rfl, rfl⟩ := EM.pure_ok h1
  rw [storeValues] at h2
  obtain ⟨_, _, h3, h4⟩ := EM.bind_ok h2
  obtain ⟨_, rfl⟩ := EM.pure_ok (a := ()) h4
  exact ⟨r, _, hr, h3⟩

/-- the temporaries `_ma<i>`, `_ma<i+1>`, .. hold the values -/
def TmpVals : Nat → List Src.Val → Store → Prop
  | _, [], _ => True
  | i, v :: vs, ρ => ρ (tmpName i) = v.render ∧ TmpVals (i + 1) vs ρ

theorem TmpVals.congr : ∀ {i : Nat} {vs : List Src.Val} {ρ ρ' : Store}, (∀ j, i ≤ j → ρ' (tmpName j) = ρ (tmpName j)) →
    TmpVals i vs ρ → TmpVals i vs ρ' := by
  intro i vs
  induction vs generalizing i with
  | nil => exact fun _ h => h
  | cons v vs ih => exact fun h hv => ⟨(h i (Nat.le_refl _)).trans hv.1, ih (fun j hj => h j (Nat.le_of_succ_le hj)) hv.2⟩

theorem tmpEq (i : Nat) : (s!"_ma{i}" : String) = tmpName i := rfl

namespace Target
variable {T : Target} {S : Source}

def tmpTexts (T : Target) : Nat → Nat → List String
  | _, 0 => []
  | i, n + 1 => T.ref (tmpName i) :: tmpTexts T (i + 1) n

theorem assignedValues_sem (C : T.Ops S) (count : Nat) (hc : count > 1) :
    ∀ (vals : List Expr) (i : Nat) (s : T.σ) (ts : List String) (s' : T.σ),
    (vals.all Src.fragExpr) = true → T.top s → assignedValues T.cv count vals vals.length i s = .ok (ts, s') →
    ∃ new n, T.Adv s s' new n ∧ ts = T.tmpTexts i vals.length ∧
      ∀ env vs, S.evalL env vals = some vs → ∀ ρ out, Agree env ρ →
        ∃ ρ', T.runLines new.reverse ⟨ρ, out⟩ = some ⟨ρ', out⟩ ∧
          (∀ x, (∀ k, x ≠ helperName k) → (∀ j, i ≤ j → x ≠ tmpName j) → ρ' x = ρ x) ∧ TmpVals i vs ρ' := by
  intro vals
  induction vals with
  | nil =>
    intro i s ts s' _ _ h
    obtain ⟨rfl, rfl⟩ := EM.pure_ok (a := ([] : List String)) h
    exact ⟨[], 0, T.adv_refl _, rfl, fun env vs hs ρ out _ => by
      cases (S.evalL_nil _).symm.trans hs; exact ⟨ρ, rfl, fun _ _ _ => rfl, trivial⟩⟩
  | cons e rest ih =>
    intro i s ts s' hf h0 h
    obtain ⟨hfe, hfr⟩ := (Bool.and_eq_true _ _).mp (List.all_cons ▸ hf)
    rw [List.length_cons, assignedValues] at h
    obtain ⟨r, s1, h1, h⟩ := EM.bind_ok h
    rw [if_pos hc] at h
    obtain ⟨v, s2, hv, h⟩ := EM.bind_ok h
    obtain ⟨vs', s3, hvs, h⟩ := EM.bind_ok h
    obtain ⟨rfl, rfl⟩ := EM.pure_ok h
    obtain ⟨t, new1, n1, rfl, ad1, sem1⟩ := expr_full C e hfe true s r s1 h0 h1
    have h01 := T.adv_top ad1 h0
    obtain ⟨_, s1', hd, hv⟩ := EM.bind_ok (x := T.cv.varDefinition (tmpName i) t false) hv
    have ad2 := C.varDef h01 hd
    have h02 := T.adv_top ad2 h01
    cases (C.varEval _ _ _ _ h02).symm.trans hv
    obtain ⟨new3, n3, ad3, rfl, sem3⟩ := ih (i + 1) _ vs' _ hfr h02 hvs
    refine ⟨new3 ++ ([T.setLine (tmpName i) t] ++ new1), n1 + 0 + n3, T.adv_trans (T.adv_trans ad1 ad2) ad3, rfl, ?_⟩
    intro env vs hs ρ out ha
    obtain ⟨v0, vs0, hv0, hvs0, rfl⟩ := S.evalL_some hs
    obtain ⟨ρ1, run1, fr1, hold1⟩ := sem1 env v0 hv0 ρ out ha
    obtain ⟨ρ3, run3, fr3, tv3⟩ := sem3 env vs0 hvs0 (ρ1.set (tmpName i) v0.render) out
      ((fr1.agree ha).congr fun x hg => set_other _ _ _ _ (good_ne_tmp x i hg))
    refine ⟨ρ3, runLines_more (runLines_one run1 (T.step_set _ out hold1.here)) run3, fun x hx1 hx2 => ?_, ?_, tv3⟩
    · rw [fr3 x hx1 (fun j hj => hx2 j (Nat.le_of_succ_le hj)), set_other _ _ _ _ (hx2 i (Nat.le_refl _))]
      exact fr1 x (fun k _ _ => hx1 k)
    · rw [fr3 _ (fun k => tmp_ne_helper i k) (fun j hj e => Nat.ne_of_lt hj (tmpName_inj e))]
      exact set_same _ _ _

theorem storeValues_sem (C : T.Ops S) : ∀ (vars : List Var) (i : Nat) (s s' : T.σ), (vars.all (fun x => goodName x.name)) = true →
    T.top s → storeValues T.cv vars (T.tmpTexts i vars.length) s = .ok ((), s') →
    ∃ new, T.Adv s s' new 0 ∧
      ∀ env vs, vs.length = vars.length → ∀ ρ out, Agree env ρ → TmpVals i vs ρ →
        ∃ ρ', T.runLines new.reverse ⟨ρ, out⟩ = some ⟨ρ', out⟩ ∧ Agree (Src.storeAll env vars vs) ρ' ∧ Own ρ ρ' := by
  intro vars
  induction vars with
  | nil =>
    intro i s s' _ _ h
    obtain ⟨_, rfl⟩ := EM.pure_ok (a := ()) h
    refine ⟨[], T.adv_refl _, fun env vs hl ρ out ha _ => ?_⟩
    obtain rfl := List.eq_nil_of_length_eq_zero hl
    exact ⟨ρ, rfl, ha, Own.refl ρ⟩
  | cons x xs ih =>
    intro i s s' hg h0 h
    obtain ⟨hgx, hgs⟩ := (Bool.and_eq_true _ _).mp (List.all_cons ▸ hg)
    obtain ⟨_, s1, h1, h2⟩ := EM.bind_ok (x := T.cv.varDefinition x.name (T.ref (tmpName i)) x.global) h
    have ad1 := C.varDef h0 h1
    obtain ⟨new2, ad2, sem2⟩ := ih (i + 1) s1 s' hgs (T.adv_top ad1 h0) h2
    refine ⟨new2 ++ [T.setLine x.name (T.ref (tmpName i))], T.adv_trans ad1 ad2, fun env vs hl ρ out ha tv => ?_⟩
    match vs, hl, tv with
    | v :: vs', hl, tv =>
      have hstep := T.step_set x.name out (tv.1 ▸ T.complete_ref ρ _ (tmpName_valid i))
      obtain ⟨ρ', run, ha', ff⟩ := sem2 (env.set x.name v) vs' (Nat.succ.inj hl) (ρ.set x.name v.render) out (agree_set _ _ hgx ha)
        (tv.2.congr fun j _ => set_other _ _ _ _ fun e => good_ne_tmp x.name j hgx e.symm)
      exact ⟨ρ', runLines_more (runLines_one (a := []) rfl hstep) run, ha', (own_set_good _ hgx).trans ff⟩

theorem assign_sem (C : T.Ops S) {vars : List Var} {vals : List Expr} (hlen : vars.length = vals.length) (hne : vars ≠ [])
    (hg : (vars.all (fun x => goodName x.name)) = true) (hf : (vals.all Src.fragExpr) = true) {s s' : T.σ} (h0 : T.top s)
    (h : assignValues T.cv vars vals s = .ok ((), s')) (src : Nat → Src.SCfg → Option (Out × Src.SCfg))
    (hsrc : ∀ fuel c o c', src fuel c = some (o, c') →
      ∃ vs, S.evalL c.env vals = some vs ∧ o = .normal ∧ c' = { c with env := Src.storeAll c.env vars vs }) :
    T.LinesSem src s s' := by
  match vars, vals, hlen, hne with
  | [x], [e], _, _ =>
    obtain ⟨r, s1, hr, hst⟩ := assign1_run h
    obtain ⟨hx, _⟩ := (Bool.and_eq_true _ _).mp (List.all_cons ▸ hg)
    obtain ⟨hfe, _⟩ := (Bool.and_eq_true _ _).mp (List.all_cons ▸ hf)
    obtain ⟨t, new, n, rfl, ad, sem⟩ := expr_full C e hfe true s r s1 h0 hr
    refine ⟨[T.setLine x.name t] ++ new, n + 0, T.adv_trans ad (C.varDef (T.adv_top ad h0) hst), fun fuel c o c' hs ρ ha => ?_⟩
    obtain ⟨vs, hvs, rfl, rfl⟩ := hsrc fuel c o c' hs
    obtain ⟨v, _, hv, hnil, rfl⟩ := S.evalL_some hvs
    cases (S.evalL_nil _).symm.trans hnil
    obtain ⟨ρ1, run1, fr1, hold1⟩ := sem c.env v hv ρ c.out ha
    exact ⟨ρ1.set x.name v.render, runLines_one run1 (T.step_set _ _ hold1.here), rfl, agree_set _ _ hx (fr1.agree ha),
      fr1.own.trans (own_set_good _ hx)⟩
  | x :: y :: xs, vals, hlen, _ =>
    unfold assignValues at h
    obtain ⟨values, s1, h1, h2⟩ := EM.bind_ok h
    rw [hlen] at h1
    obtain ⟨new1, n1, ad1, rfl, sem1⟩ := assignedValues_sem C vals.length (by rw [← hlen]; simp) vals 0 s values s1 hf h0 h1
    rw [← hlen] at h2
    obtain ⟨new2, ad2, sem2⟩ := storeValues_sem C _ 0 s1 s' hg (T.adv_top ad1 h0) h2
    refine ⟨new2 ++ new1, n1 + 0, T.adv_trans ad1 ad2, fun fuel c o c' hs ρ ha => ?_⟩
    obtain ⟨vs, hvs, rfl, rfl⟩ := hsrc fuel c o c' hs
    obtain ⟨ρ1, run1, fr1, tv1⟩ := sem1 c.env vs hvs ρ c.out ha
    have ha1 : Agree c.env ρ1 := ha.congr fun x hg => fr1 x (fun k => good_ne_helper x k hg) (fun j _ => good_ne_tmp x j hg)
    obtain ⟨ρ2, run2, ha2, ff2⟩ := sem2 c.env vs (by rw [S.evalL_length vals c.env vs hvs, hlen]) ρ1 c.out ha1 tv1
    exact ⟨ρ2, runLines_more run1 run2, rfl, ha2, fun z hz hk hi => (ff2 z hz hk hi).trans (fr1 z hk fun j _ => hi j)⟩

end Target

/-- the loop flag as the increment block needs it -/
def FlagOK (incr : Option Stmt) (n : Nat) (ρ : Store) : Prop :=
  match incr with
  | some _ => ρ (flagName n) = "1"
  | none => True

theorem flagOK_congr (incr : Option Stmt) (n : Nat) (ρ ρ' : Store) (h : ρ' (flagName n) = ρ (flagName n)) (hf : FlagOK incr n ρ) :
    FlagOK incr n ρ' := by
  cases incr with
  | none => trivial
  | some i => simp only [FlagOK] at hf ⊢; rw [h]; exact hf

theorem fragElifs_conds : ∀ (elifs : List (Expr × List Stmt)), Src.fragElifs elifs = true →
    (elifs.all (fun p => Src.fragExpr p.1)) = true
  | [], _ => rfl
  | (c, b) :: rest, h => by
    simp only [Src.fragElifs, Bool.and_eq_true] at h
    simp only [List.all_cons, Bool.and_eq_true]
    exact ⟨h.1.1, fragElifs_conds rest h.2⟩

end Tsh.Sem
