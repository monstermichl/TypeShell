/-
  Calls agree with the declared signatures, in expressions: the signature pass as an instance of the expression walk.  The
  argument loop carries "the arguments so far match a prefix of the parameters" (`argAcc`).
-/
import TshVerif.Lemmas.ParserExprWalk
namespace Tsh.Parser
open Tsh Tsh.Tr Tsh.LexTables

def sigOf (f : FuncInfo) : PT.Sig := ⟨f.name, f.rets, f.params.map (·.vt)⟩

/-- every function the context knows has its signature in `F` -/
def FuncsIn (F : List PT.Sig) (ctx : Ctx) : Prop := ∀ e ∈ ctx.funcs, sigOf e.2 ∈ F

def sigP (F : List PT.Sig) (e : Expr) : Prop := PT.sigE F e = true
def sigsP (F : List PT.Sig) (es : List Expr) : Prop := PT.sigEs F es = true

theorem sigP.out {F : List PT.Sig} {e : Expr} (h : sigP F e) : PT.sigE F e = true := h

/-- what the argument loop of a checked call keeps -/
def argsPrefix : List ValueType → List Expr → Bool
  | _, [] => true
  | p :: ps, e :: es => p.equals (Expr.valueType e) && argsPrefix ps es
  | [], _ :: _ => false

theorem argsPrefix_snoc {e : Expr} {p : ValueType} (he : p.equals (Expr.valueType e) = true) :
    ∀ {acc : List Expr} {ps : List ValueType}, argsPrefix ps acc = true → ps[acc.length]? = some p → argsPrefix ps (acc ++ [e]) = true := by
  intro acc
  induction acc with
  | nil =>
    intro ps _ h
    cases ps with
    | nil => cases h
    | cons p0 ps => cases h; simp [argsPrefix, he]
  | cons a acc ih =>
    intro ps hp h
    cases ps with
    | nil => cases hp
    | cons p0 ps =>
      rw [argsPrefix, Bool.and_eq_true] at hp
      simp only [List.cons_append, argsPrefix, Bool.and_eq_true]
      exact ⟨hp.1, ih hp.2 h⟩

theorem argsMatch_of_prefix : ∀ {args : List Expr} {ps : List ValueType}, argsPrefix ps args = true → args.length = ps.length →
    PT.argsMatch ps args = true := by
  intro args
  induction args with
  | nil => intro ps _ h; cases ps with
    | nil => rfl
    | cons _ _ => cases h
  | cons a args ih =>
    intro ps hp h
    cases ps with
    | nil => cases h
    | cons p ps =>
      rw [argsPrefix, Bool.and_eq_true] at hp
      simp only [PT.argsMatch, Bool.and_eq_true]
      exact ⟨hp.1, ih hp.2 (Nat.succ.inj h)⟩

def argAcc (F : List PT.Sig) (ps : Option (List Var)) (acc : List Expr) : Prop :=
  sigsP F acc ∧ ∀ l, ps = some l → argsPrefix (l.map (·.vt)) acc = true

def argsRes (F : List PT.Sig) (ps : Option (List Var)) (args : List Expr) : Prop :=
  sigsP F args ∧ ∀ l, ps = some l → PT.argsMatch (l.map (·.vt)) args = true

variable {F : List PT.Sig}

theorem findFunc_in {ctx : Ctx} {name pfx : String} {f : FuncInfo} (hc : FuncsIn F ctx) (h : ctx.findFunc name pfx = some f) :
    sigOf f ∈ F := by
  obtain ⟨e, he, rfl⟩ := findFunc_mem h
  exact hc e he

theorem declares_of_mem {f : FuncInfo} {args : List Expr} (hf : sigOf f ∈ F) (hm : PT.argsMatch (f.params.map (·.vt)) args = true) :
    PT.declares F f.name f.rets args = true := by
  unfold PT.declares
  rw [List.any_eq_true]
  exact ⟨sigOf f, hf, by simp [sigOf, hm]⟩

theorem sigRule (F : List PT.Sig) : ExprRule (FuncsIn F) (sigP F) (sigsP F) (argAcc F) where
  nil := rfl
  cons he hes := band_true he hes
  uncons h := Bool.and_eq_true_iff.mp h
  var _ _ := rfl
  argsNil := ⟨rfl, fun _ _ => by simp [argsPrefix]⟩
  argsSnoc ha hs _ h := ⟨hs, fun l hl => by
    obtain ⟨p, hp, heq⟩ := h l hl
    exact argsPrefix_snoc heq (ha.2 l hl) (by simp [List.getElem?_map, hp])⟩
  args ha := ha.1
  call hc hf ha hl :=
    band_true ha.1 (declares_of_mem (findFunc_in hc hf) (argsMatch_of_prefix (ha.2 _ rfl) (by simpa using hl)))
  app ha := ha.1
  appPipe ha hn _ := band_true ha.1 hn
  boolLit := rfl
  intLit := rfl
  strLit := rfl
  group h := h
  inputNone := rfl
  input h _ := h
  read h _ := h
  itoa h _ := h
  exists_ h _ := h
  len h _ := h
  copy _ h _ _ := h
  unary h _ := h
  binary hl hr _ _ := band_true hl hr
  compare hl hr _ _ := band_true hl hr
  logical hl hr _ _ _ := band_true hl hr
  sliceNew _ hv _ := hv
  sliceEval hv hi _ _ := band_true hv hi
  substr hv ha _ _ := band_true hv ha
  substrTo hv ha hb _ _ _ := band_true (band_true hv ha) hb

structure SigIH (F : List PT.Sig) (fuel : Nat) : Prop where
  values : ∀ ctx first, FuncsIn F ctx → PostOk (evalValues fuel ctx first) (sigsP F)
  builtinArgs : ∀ ctx, FuncsIn F ctx → PostOk (evalBuiltinArgs fuel ctx) (sigsP F)
  builtin : ∀ ctx tt mn mx, FuncsIn F ctx → PostOk (evalBuiltin fuel ctx tt mn mx) (sigsP F)
  arguments : ∀ ctx ps, FuncsIn F ctx → PostOk (evalArguments fuel ctx ps) (argsRes F ps)
  argLoop : ∀ ctx ps acc, FuncsIn F ctx → argAcc F ps acc → PostOk (evalArgLoop fuel ctx ps acc) (argAcc F ps)
  argTail : ∀ ctx ps acc, FuncsIn F ctx → argAcc F ps acc → PostOk (evalArgTail fuel ctx ps acc) (argAcc F ps)
  functionCall : ∀ ctx, FuncsIn F ctx → PostOk (evalFunctionCall fuel ctx) (sigP F)
  appCall : ∀ ctx, FuncsIn F ctx → PostOk (evalAppCall fuel ctx) (sigP F)
  sliceInst : ∀ ctx, FuncsIn F ctx → PostOk (evalSliceInstantiation fuel ctx) (sigP F)
  sliceElems : ∀ ctx dt, FuncsIn F ctx → PostOk (evalSliceElems fuel ctx dt) (sigsP F)
  subscript : ∀ ctx, FuncsIn F ctx → PostOk (evalSubscript fuel ctx) (sigP F)
  single : ∀ ctx, FuncsIn F ctx → PostOk (evalSingle fuel ctx) (sigP F)
  unary : ∀ ctx, FuncsIn F ctx → PostOk (evalUnary fuel ctx) (sigP F)
  binary : ∀ ctx lv, FuncsIn F ctx → PostOk (evalBinary fuel ctx lv) (sigP F)
  binaryLoop : ∀ ctx lv l, FuncsIn F ctx → sigP F l → PostOk (evalBinaryLoop fuel ctx lv l) (sigP F)
  comparison : ∀ ctx, FuncsIn F ctx → PostOk (evalComparison fuel ctx) (sigP F)
  logical : ∀ ctx lv, FuncsIn F ctx → PostOk (evalLogical fuel ctx lv) (sigP F)
  logicalLoop : ∀ ctx lv l, FuncsIn F ctx → sigP F l → PostOk (evalLogicalLoop fuel ctx lv l) (sigP F)
  expression : ∀ ctx, FuncsIn F ctx → PostOk (evalExpression fuel ctx) (sigP F)

theorem sigIH_all (F : List PT.Sig) (fuel : Nat) : SigIH F fuel :=
  have w := exprWalk (sigRule F) fuel
  { values := fun ctx first hc => PostOk.mono (w.values ctx first hc).ok fun _ h => h.1
    builtinArgs := fun ctx hc => PostOk.mono (w.builtinArgs ctx hc).ok fun _ h => h.1
    builtin := fun ctx tt mn mx hc => PostOk.mono (w.builtin ctx tt mn mx hc).ok fun _ h => h.1.1
    arguments := fun ctx ps hc => PostOk.mono (w.arguments ctx ps hc).ok fun _ h =>
      ⟨h.1.1, fun l hl => argsMatch_of_prefix (h.1.2 l hl) (by simpa using h.2 l hl)⟩
    argLoop := fun ctx ps acc hc ha => (w.argLoop ctx ps acc hc ha).ok
    argTail := fun ctx ps acc hc ha => (w.argTail ctx ps acc hc ha).ok
    functionCall := fun ctx hc => (w.functionCall ctx hc).ok
    appCall := fun ctx hc => PostOk.mono (w.appCall ctx hc).ok fun _ h => h.1
    sliceInst := fun ctx hc => (w.sliceInst ctx hc).ok
    sliceElems := fun ctx dt hc => PostOk.mono (w.sliceElems ctx dt hc).ok fun _ h => h.1
    subscript := fun ctx hc => (w.subscript ctx hc).ok
    single := fun ctx hc => (w.single ctx hc).ok
    unary := fun ctx hc => (w.unary ctx hc).ok
    binary := fun ctx lv hc => (w.binary ctx lv hc).ok
    binaryLoop := fun ctx lv l hc hl => (w.binaryLoop ctx lv l hc hl).ok
    comparison := fun ctx hc => (w.comparison ctx hc).ok
    logical := fun ctx lv hc => (w.logical ctx lv hc).ok
    logicalLoop := fun ctx lv l hc hl => (w.logicalLoop ctx lv l hc hl).ok
    expression := fun ctx hc => (w.expression ctx hc).ok }

end Tsh.Parser
