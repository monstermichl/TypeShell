/-
  The association lists of the parser model (`assocGet` / `assocSet`: Go maps with insertion order).
-/
import TshVerif.Model.Parser
namespace Tsh.Parser
open Tsh

/-- `assocSet` on a present key maps with a function that keeps every key: a search by key commutes with it -/
theorem find_set {β : Type} (m : List (String × β)) (k k' : String) (v : β) :
    (m.map (fun e => if e.1 == k then (k, v) else e)).find? (·.1 == k') =
      (m.find? (·.1 == k')).map (fun e => if e.1 == k then (k, v) else e) := by
  rw [List.find?_map]
  congr 2
  funext e
  dsimp only [Function.comp]
  split
  · next h => rw [beq_iff_eq.mp h]
  · rfl

theorem assocGet_set_same {β : Type} (m : List (String × β)) (k : String) (v : β) : assocGet (assocSet m k v) k = some v := by
  unfold assocSet assocGet
  split
  · next h =>
    obtain ⟨e, he⟩ := Option.isSome_iff_exists.mp (List.find?_isSome.mpr (List.any_eq_true.mp h))
    rw [find_set, he, Option.map_some, Option.map_some, if_pos (List.find?_some he)]
  · next h =>
    rw [List.find?_append, List.find?_eq_none.mpr fun e he hc => h (List.any_eq_true.mpr ⟨e, he, hc⟩)]
    simp

theorem assocGet_set_other {β : Type} (m : List (String × β)) (k k' : String) (v : β) (hne : k' ≠ k) :
    assocGet (assocSet m k v) k' = assocGet m k' := by
  unfold assocSet assocGet
  split
  · rw [find_set]
    cases he : m.find? (·.1 == k') with
    | none => rfl
    | some e =>
      have hk' := List.find?_some he
      rw [Option.map_some, if_neg fun hk => hne ((beq_iff_eq.mp hk').symm.trans (beq_iff_eq.mp hk))]
  · rw [List.find?_append]
    have : (k == k') = false := by simp [Ne.symm hne]
    cases hf : List.find? (fun x => x.1 == k') m with
    | none => simp [List.find?, this]
    | some x => simp

theorem assocGet_mem {β : Type} {m : List (String × β)} {k : String} {v : β} (h : assocGet m k = some v) : (k, v) ∈ m := by
  obtain ⟨e, hf, rfl⟩ := Option.map_eq_some_iff.mp h
  obtain rfl : e.1 = k := by simpa using List.find?_some hf
  exact List.mem_of_find?_eq_some hf

theorem assocSet_mem {β : Type} {m : List (String × β)} {k : String} {v : β} {e : String × β}
    (h : e ∈ assocSet m k v) : e ∈ m ∨ e = (k, v) := by
  unfold assocSet at h
  split at h
  · obtain ⟨x, hx, rfl⟩ := List.mem_map.mp h
    split
    · exact Or.inr rfl
    · exact Or.inl hx
  · rcases List.mem_append.mp h with h | h
    · exact Or.inl h
    · exact Or.inr (by simpa using h)

theorem assocGet_append {β : Type} (m l : List (String × β)) (k : String) :
    assocGet (m ++ l) k = (assocGet m k).or (assocGet l k) := by
  unfold assocGet
  rw [List.find?_append]
  cases List.find? (fun x => x.1 == k) m <;> rfl

end Tsh.Parser
