/-
  Statements with calls, by induction over the AST: one lemma per case, which takes what the induction gives for the parts;
  the induction itself only dispatches.
-/
import TshVerif.Lemmas.Sem2Ctl
namespace Tsh.Sem2
open Tsh Tsh.Tr Tsh.Bash Tsh.Sem Tsh.Sem2.Src
open Tsh.Sem.Src (Val Env)

attribute [local irreducible] Store.set  -- as in Sem2Sim

/-- the else part as the end of an else-if chain: `Ends` with `run := ExecElifs [] t m`, written out -/
def ElseSimF (ctx : Ctx) (T : List FEntry) (B : Nat) (els : List Stmt) (t : Option (List Cmd)) (k : Nat) : Prop :=
  ∀ fuel c o c', execSs fuel els c = some (o, c') → ∀ m, Inv ctx T c m →
    ∃ m' o', ExecElifs [] t m o' m' ∧ OutRel o o' ∧ c'.out = m'.out ∧
      ((∀ j, o ≠ .exit j) → Kept ctx T B k c' m m') ∧ (∀ vs, o = .ret vs → ValsRv 0 vs m'.ρ)

/-- the converter action `act`, started in context `ctx` with at least `B` loop flags used, achieves `Q` -/
abbrev Translates (ctx : Ctx) (B : Nat) (act : BM Unit) (Q : St → St → Prop) : Prop :=
  ∀ s s', ctxOf s = ctx → B ≤ s.forCounter → act s = .ok ((), s') → Q s s'

/-- `else_semF`, `elifs_semF`, `incr_semF` state this claim and the two after it written out -/
def ElseSemF (ctx : Ctx) (T : List FEntry) (B : Nat) (els : List Stmt) (s s' : St) : Prop :=
  ∃ t n mm rq, s' = reqSt (adv2 s (flatElse t).reverse n mm) rq ∧ LinesOK ctx (s.forCounter + mm) (tnames T) (flatElse t) ∧
    ElseSimF ctx T B els t s.forCounter

/-- what translating the else-if branches with guard texts `ecs` achieved: whatever else part follows, the chain does what
    the source chain does once the guards say what the conditions evaluated to -/
def ElifsSemF (ctx : Ctx) (T : List FEntry) (B : Nat) (elifs : List (Expr × List Stmt)) (ecs : List String) (s s' : St) : Prop :=
  ∃ tree n mm rq, s' = reqSt (adv2 s (flatElifs tree).reverse n mm) rq ∧ LinesOK ctx (s.forCounter + mm) (tnames T) (flatElifs tree) ∧
    ∀ els elseT k0, s'.forCounter ≤ k0 → ElseSimF ctx T B els elseT k0 →
      ∀ fuel bs c o c', execEl fuel elifs bs els c = some (o, c') →
        ∀ m, Inv ctx T c m → GuardValsF ecs bs m.ρ → Ends ctx T B s.forCounter (ExecElifs tree elseT m) o c' m

def IncrSemF (ctx : Ctx) (T : List FEntry) (B : Nat) (incr : Option Stmt) (n : Nat) (s s' : St) : Prop :=
  ∃ P nn mm rq, s' = reqSt (adv2 s (flats P).reverse nn mm) rq ∧ LinesOK ctx (s.forCounter + mm) (tnames T) (flats P) ∧ IncrStepF ctx T B incr P n ∧
    (∀ c m, Inv ctx T c m → m.ρ (flagName n) = "" →
      ∃ m1, ExecCmds P m .normal m1 ∧ FlagOKF incr n m1.ρ ∧ Inv ctx T c m1 ∧ Ctl m m1 ∧ ∀ x, x ≠ flagName n → m1.ρ x = m.ρ x)

variable {ctx : Ctx} {T : List FEntry} {B : Nat}

theorem Translates.after {act : BM Unit} {Q : St → St → Prop} (h : Translates ctx B act Q) {s s1 s' : St} {ls : List Line} {mm : Nat}
    (a : Adds ctx T s s1 ls mm) (hc : ctxOf s = ctx) (hB : B ≤ s.forCounter) (e : act s1 = .ok ((), s')) : Q s1 s' :=
  h s1 s' (a.ctxOf.trans hc) (Nat.le_trans hB a.le) e

theorem stmts_nil : Translates ctx B (evalStmts conv []) (StmtSemF ctx T B (fun f c => execSs f [] c)) := by
  intro s s' _ _ h
  cases (EM.pure_ok (a := ()) h).2
  exact stmtSemF_nil ctx T B s

theorem stmts_cons {st : Stmt} {rest : List Stmt} (h1 : Translates ctx B (evalStmt conv st) (StmtSemF ctx T B (fun f c => execS f st c)))
    (h2 : Translates ctx B (evalStmts conv rest) (StmtSemF ctx T B (fun f c => execSs f rest c))) :
    Translates ctx B (evalStmts conv (st :: rest)) (StmtSemF ctx T B (fun f c => execSs f (st :: rest) c)) := by
  intro s s' hc hB h
  obtain ⟨_, s1, e1, e2⟩ := EM.bind_ok h
  have hs1 := h1 s s1 hc hB e1
  obtain ⟨_, _, a1, _⟩ := hs1.adds
  exact stmtSemF_cons hs1 (h2.after a1 hc hB e2)

theorem block_of_stmts {body : List Stmt} (h : Translates ctx B (evalStmts conv body) (StmtSemF ctx T B (fun f c => execSs f body c))) :
    Translates ctx B (evalBlock conv body) (StmtSemF ctx T B (fun f c => execSs f body c)) := by
  cases body with
  | nil =>
    exact fun s s' _ _ hb => line_semF (o := .normal) hb rfl rfl rfl (fun _ => rfl) nofun (fun fuel c p hs => by cases fuel <;> cases hs; rfl)
  | cons st rest => exact h

theorem else_of_stmts {els : List Stmt} (h : Translates ctx B (evalStmts conv els) (StmtSemF ctx T B (fun f c => execSs f els c))) :
    Translates ctx B (evalElse conv els) (ElseSemF ctx T B els) := by
  cases els with
  | nil =>
    intro s s' _ _ he
    cases (EM.pure_ok (a := ()) he).2
    refine ⟨none, 0, 0, Req.none, by rw [reqSt_none]; rfl, LinesOK.nil _ _ _, ?_⟩
    intro fuel c o c' hs m hi
    cases fuel <;> cases hs
    exact Ends.refl .none hi
  | cons st rest =>
    intro s s' hc hB he
    obtain ⟨_, s1, h1, he⟩ := EM.bind_ok he
    obtain ⟨_, s2, h2, he⟩ := EM.bind_ok he
    obtain ⟨_, s3, h3, h4⟩ := EM.bind_ok he
    have h3 : evalStmts conv (st :: rest) s1 = .ok ((), s3) := by
      show (evalStmt conv st >>= fun _ => evalStmts conv rest) s1 = _
      simp only [bind, h2, h3]
    have a1 := Adds.line (ctx := ctx) (T := T) h1 (sline_plain _ _ _ _ rfl rfl)
    obtain ⟨cs, mm, a, sim⟩ := (h.after a1 hc hB h3).adds
    cases (EM.pure_ok (a := ()) h4).2
    obtain ⟨n, rq, e, hl⟩ := a1.trans a
    exact ⟨some cs, n, _, rq, e, hl, fun fuel c o c' hs m hi => Ends.imp (sim fuel c o c' hs m hi) .els a1.le⟩

theorem opt_none : Translates ctx B (evalInit conv none) (StmtSemF ctx T B (srcIncrF none)) := by
  intro s s' _ _ h
  cases (EM.pure_ok (a := ()) h).2
  refine .of_adds (cmds := []) (.refl ctx T s) rfl ?_
  intro fuel c o c' hs m hi
  cases hs
  exact Ends.refl .nil hi

theorem incr_none {n : Nat} : Translates ctx B (evalIncr conv none) (IncrSemF ctx T B none n) := by
  intro s s' _ _ h
  cases (EM.pure_ok (a := ()) h).2
  refine ⟨[], 0, 0, Req.none, by rw [reqSt_none]; rfl, LinesOK.nil _ _ _, ?_, fun c m hi _ => ⟨m, .nil, trivial, hi, Ctl.refl m, fun _ _ => rfl⟩⟩
  intro fuel cb o c2 hs m hi hfl
  cases hs
  exact ⟨m, .normal, .nil, trivial, hi.out, fun _ => ⟨hi, Ctl.refl m, FlagsKept.refl _ _ m, hfl⟩⟩

/-- the increment runs under `if [ -n "$flag" ]`, then the flag is set: the first round skips it -/
theorem incr_some {i : Stmt} {s s' : St} {n : Nat} {rest : List Nat}
    (hi : Translates ctx B (evalStmt conv i) (StmtSemF ctx T B (fun f c => execS f i c)))
    (hc : ctxOf s = ctx) (hfo : s.fors = n :: rest) (hn : n < s.forCounter) (hB : B ≤ s.forCounter)
    (h : evalIncr conv (some i) s = .ok ((), s')) : IncrSemF ctx T B (some i) n s s' := by
  obtain ⟨_, s1, h1, h⟩ := EM.bind_ok h
  obtain ⟨_, s2, h2, h3⟩ := EM.bind_ok h
  have a1 : Adds ctx T s s1 [.incrStart n] 0 := .code (forIncrementStart_ok hfo h1) (.one (sline_plain _ _ _ _ rfl rfl))
  obtain ⟨ci, mi, ai, simi⟩ := (hi.after a1 hc hB h2).adds
  have a3 : Adds ctx T s2 s' [.fi, .incrFlagSet n] 0 := .code (forIncrementEnd_ok (by rw [ai.fors, a1.fors]; exact hfo) h3)
    (.cons (sline_plain _ _ _ _ rfl rfl) (.cons (sline_flag _ _ _ _ n (Nat.lt_of_lt_of_le hn (a1.trans ai).le) rfl rfl) (.nil _ _ _)))
  have hn1 : n ≤ s1.forCounter := Nat.le_trans (Nat.le_of_lt hn) a1.le
  obtain ⟨ni, ri, e, hl⟩ := ((a1.trans ai).trans a3).cast (ls' := flats [.ifc (.incrStart n) ci [] none, .simple (.incrFlagSet n)])
    (by simp [flats, flat, flatElifs, flatElse])
  refine ⟨_, ni, _, ri, e, hl, ?_, ?_⟩
  · intro fuel cb o c2 hs m hi hfl
    obtain ⟨m4, ex4, ho4, hk4, _⟩ := Ends.elim (simi fuel cb o c2 hs m hi)
    have hg : Sem.guard m.ρ (.incrStart n) = some true := by
      simp only [FlagOKF] at hfl
      simp [Sem.guard, hfl]
    by_cases hon : o = .normal
    · subst hon
      have k4 := hk4 nofun
      exact ⟨{ m4 with ρ := m4.ρ.set (flagName n) "1" }, .normal, .cons (.ifTrue hg ex4) (execCmds_single (.simple rfl rfl)), trivial, ho4,
        fun _ => ⟨k4.inv.set_flag n "1", k4.ctl, (k4.flags.mono hn1).trans (FlagsKept.set_flag m4 "1" (Nat.le_refl n)) (Nat.le_refl n),
          Sem.set_same m4.ρ _ _⟩⟩
    · exact ⟨m4, outOf o, .stop (.ifTrue hg ex4) (fun e => hon (outOf_normal.mp e)), outRel_outOf o, ho4, fun h' => absurd h' hon⟩
  · intro c m hi h0'
    have hg : Sem.guard m.ρ (.incrStart n) = some false := by simp [Sem.guard, h0']
    exact ⟨{ m with ρ := m.ρ.set (flagName n) "1" }, .cons (.ifFalse hg .none) (execCmds_single (.simple rfl rfl)), Sem.set_same m.ρ _ _,
      hi.set_flag n "1", ⟨rfl, rfl, rfl⟩, fun x hx => Sem.set_other _ _ _ _ hx⟩

theorem elifs_done {elifs : List (Expr × List Stmt)} {ecs : List String} (hd : elifs = [] ∨ ecs = []) :
    Translates ctx B (evalElifs conv elifs ecs) (ElifsSemF ctx T B elifs ecs) := by
  intro s s' _ _ h
  have h' : (pure () : BM Unit) s = .ok ((), s') := by
    rcases hd with rfl | rfl
    · exact h
    · cases elifs <;> exact h
  cases (EM.pure_ok h').2
  refine ⟨[], 0, 0, Req.none, by rw [reqSt_none]; rfl, LinesOK.nil _ _ _, ?_⟩
  intro els elseT k0 hk hsim fuel bs c o c' hs m hi hgv
  have hd' : elifs = [] ∨ bs = [] := hd.imp id fun e => by
    subst e
    cases bs with
    | nil => rfl
    | cons _ _ => exact hgv.elim
  obtain ⟨f, hs'⟩ := src_el_done hd' hs
  exact Ends.imp (hsim f c o c' hs' m hi) id hk

theorem elifs_cons {cnd : Expr} {body : List Stmt} {rest : List (Expr × List Stmt)} {t : String} {cs : List String}
    (hb : Translates ctx B (evalBlock conv body) (StmtSemF ctx T B (fun f c => execSs f body c)))
    (hr : Translates ctx B (evalElifs conv rest cs) (ElifsSemF ctx T B rest cs)) :
    Translates ctx B (evalElifs conv ((cnd, body) :: rest) (t :: cs)) (ElifsSemF ctx T B ((cnd, body) :: rest) (t :: cs)) := by
  intro s s' hc hB h
  obtain ⟨_, s1, h1, h⟩ := EM.bind_ok h
  obtain ⟨_, s2, h2, h⟩ := EM.bind_ok h
  obtain ⟨_, s3, h3, h4⟩ := EM.bind_ok h
  have a1 := Adds.line (ctx := ctx) (T := T) h1 (sline_plain _ _ _ _ rfl rfl)
  obtain ⟨bc, mb, ab, simb⟩ := (hb.after a1 hc hB h2).adds
  cases (EM.pure_ok (a := ()) h3).2
  have a2 := a1.trans ab
  obtain ⟨tree, nt, mt, rt, et, hlt, simt⟩ := hr.after a2 hc hB h4
  obtain ⟨n, rq, e, hl⟩ := (a2.trans ⟨nt, rt, et, hlt⟩).cast (ls' := flatElifs ((.ifStart "elif" t, bc) :: tree)) (by simp [flatElifs])
  refine ⟨_, n, _, rq, e, hl, ?_⟩
  intro els elseT k0 hk hsim fuel bs c o c' hs m hi hgv
  match bs, hgv with
  | v :: bs', ⟨hgb, hgv'⟩ =>
    cases fuel with
    | zero => cases hs
    | succ f =>
      rw [execEl_cons] at hs
      split at hs
      · exact Ends.imp (simb f c o c' hs m hi) (.hit (hgb true rfl)) a1.le
      · exact Ends.imp (simt els elseT k0 hk hsim f bs' c o c' hs m hi hgv') (.miss (hgb false rfl)) a2.le
      · cases hs

theorem fragEl_conds {T : List FEntry} : ∀ (elifs : List (Expr × List Stmt)), fragEl (tnames T) elifs = true → fragEs (tnames T) (elifs.map Prod.fst) = true
  | [], _ => rfl
  | (c, b) :: rest, h => by
    simp only [fragEl, Bool.and_eq_true] at h
    simp only [List.map_cons, fragEs, Bool.and_eq_true]
    exact ⟨h.1.1, fragEl_conds rest h.2⟩

theorem ifS_semF (hT : TableOK T) (hctx : CtxOK ctx T B) {cond : Expr} {body els : List Stmt} {elifs : List (Expr × List Stmt)}
    (hfc : fragE (tnames T) cond = true) (hfe : fragEl (tnames T) elifs = true)
    (hb : Translates ctx B (evalBlock conv body) (StmtSemF ctx T B (fun f c => execSs f body c)))
    (he : ∀ ecs, Translates ctx B (evalElifs conv elifs ecs) (ElifsSemF ctx T B elifs ecs))
    (hl : Translates ctx B (evalElse conv els) (ElseSemF ctx T B els)) :
    Translates ctx B (evalStmt conv (.ifS cond body elifs els)) (StmtSemF ctx T B (fun f c => execS f (.ifS cond body elifs els) c)) := by
  intro s s' hc hB h
  obtain ⟨c, s1, h1, h⟩ := EM.bind_ok h
  obtain ⟨ecs, s2, h2, h⟩ := EM.bind_ok h
  obtain ⟨_, s3, h3, h⟩ := EM.bind_ok h
  obtain ⟨_, s4, h4, h⟩ := EM.bind_ok h
  obtain ⟨_, s5, h5, h⟩ := EM.bind_ok h
  obtain ⟨_, s6, h6, h7⟩ := EM.bind_ok h
  have ec := expr_semF hT hctx hfc hc h1
  rw [evalConds_eq_args] at h2
  obtain ⟨new, n, rq, rfl, sim⟩ := ec.cons (src := fun f c => Src.evalArgs f (cond :: elifs.map Prod.fst) c)
    (args_semF hT hctx (fragEl_conds elifs hfe) (ec.ctxOf.trans hc) h2) fun _ _ _ => src_args_cons
  have a3 := (Adds.expr rfl sim.lines).trans (.line h3 (sline_plain _ _ _ _ rfl rfl))
  obtain ⟨bc, mb, ab, simb⟩ := (hb.after a3 hc hB h4).adds
  have a4 := a3.trans ab
  obtain ⟨tree, nt, mt, rt, e5, hlt, simt⟩ := (he ecs).after a4 hc hB h5
  have a5 := a4.trans ⟨nt, rt, e5, hlt⟩
  obtain ⟨et, nl, ml, rl, e6, hle, siml⟩ := hl.after a5 hc hB h6
  refine .of_adds (cmds := new.reverse.map Cmd.simple ++ [Cmd.ifc (.ifStart "if" (firstValue c)) bc tree et])
    ((a5.trans ⟨nl, rl, e6, hle⟩).trans (.line h7 (sline_plain _ _ _ _ rfl rfl)))
    (by simp [flats_append, flats_simples_reverse, flats, flat]) (simF_bind sim ?_)
  intro fuel c0 o c' hs
  refine (src_ifS hs).imp ?_
  rintro _ c2 ⟨f, ov, os, b, bs, rfl, hvb, hvs, hbr⟩ m2 hi2 hh
  have hg : Sem.guard m2.ρ (.ifStart "if" (firstValue c)) = some b := guardF_of_holds hh.1 hi2.agree hvb
  cases b with
  | true => exact Ends.imp (simb f c2 o c' hbr m2 hi2) (fun ex => execCmds_single (.ifTrue hg ex)) a3.le
  | false =>
    exact Ends.imp (simt els et s5.forCounter (Nat.le_refl _) siml f bs c2 o c' hbr m2 hi2 (guardValsF_of_holdsAll hi2.agree hh.2 hvs))
      (fun ex => execCmds_single (.ifFalse hg ex)) a4.le

def withFors (s : St) (fs : List Nat) : St := { s with fors := fs }

theorem Adds.inLoop {ctx : Ctx} {T : List FEntry} {s s1 s' : St} {fs : List Nat} {ls : List Line} {mm : Nat}
    (a : Adds ctx T (withFors s fs) s1 ls mm) (e : s' = withFors s1 s.fors) : Adds ctx T s s' ls mm := by
  obtain ⟨n, rq, rfl, hl⟩ := a
  exact ⟨n, rq, e, hl⟩

theorem forS_semF (hT : TableOK T) (hctx : CtxOK ctx T B) {init incr : Option Stmt} {cond : Expr} {body : List Stmt}
    (hfc : fragE (tnames T) cond = true)
    (hi : Translates ctx B (evalInit conv init) (StmtSemF ctx T B (srcIncrF init)))
    (hinc : ∀ s s' n rest, ctxOf s = ctx → s.fors = n :: rest → n < s.forCounter → B ≤ s.forCounter → B ≤ n →
      evalIncr conv incr s = .ok ((), s') → IncrSemF ctx T B incr n s s')
    (hb : Translates ctx B (evalBlock conv body) (StmtSemF ctx T B (fun f c => execSs f body c))) :
    Translates ctx B (evalStmt conv (.forS init cond incr body)) (StmtSemF ctx T B (fun f c => execS f (.forS init cond incr body) c)) := by
  intro s s' hc hB h
  obtain ⟨_, s1, h1, h⟩ := EM.bind_ok h
  obtain ⟨_, s2, h2, h⟩ := EM.bind_ok h
  obtain ⟨_, s3, h3, h⟩ := EM.bind_ok h
  obtain ⟨c, s4, h4, h⟩ := EM.bind_ok h
  obtain ⟨_, s5, h5, h⟩ := EM.bind_ok h
  obtain ⟨_, s6, h6, h7⟩ := EM.bind_ok h
  obtain ⟨ci, mi, ai, simi⟩ := (hi s s1 hc hB h1).adds
  have hc1 := ai.ctxOf.trans hc
  have hfc1 := ai.le
  have hB1 := Nat.le_trans hB hfc1
  -- from here to the end of the loop one more loop is open
  have a2 : Adds ctx T (withFors s1 (s1.forCounter :: s1.fors)) s2 [.forFlagInit s1.forCounter, .whileStart] 1 :=
    ⟨0, Req.none, by rw [forStart_ok h2, reqSt_none]; rfl,
      .cons (sline_flag _ _ _ _ _ (Nat.lt_succ_self _) rfl rfl) (.one (sline_plain _ _ _ _ rfl rfl))⟩
  obtain ⟨P, np, mp, rp, ep, hlP, simP, simP0⟩ := hinc s2 s3 s1.forCounter s1.fors (a2.ctxOf.trans hc1) a2.fors
    (a2.forCounter ▸ Nat.lt_succ_self _) (Nat.le_trans hB1 a2.le) hB1 h3
  have a3 := a2.trans ⟨np, rp, ep, hlP⟩
  obtain ⟨newc, nc, rc, e4, simc⟩ := expr_semF hT hctx hfc (a3.ctxOf.trans hc1) h4
  have a5 := (a3.trans (.expr e4 simc.lines)).trans (.line h5 (sline_plain _ _ _ _ rfl rfl))
  have h5f : s5.forCounter = s1.forCounter + (1 + mp + 0 + 0) := a5.forCounter
  obtain ⟨bc, mb, ab, simb⟩ := (hb.after a5 hc1 hB1 h6).adds
  have a7 : Adds ctx T s1 s' _ _ := ((a5.trans ab).trans (.code (ls := [.done]) rfl (.one (sline_plain _ _ _ _ rfl rfl)))).inLoop
    (by rw [forEnd_ok h7, (a5.trans ab).fors]; rfl)
  refine .of_adds (cmds := ci ++ [Cmd.simple (.forFlagInit s1.forCounter),
      Cmd.loop (P ++ (newc.reverse.map Cmd.simple ++ (Cmd.simple (.forCond (firstValue c)) :: bc)))]) (ai.trans a7)
    (by simp [flats_append, flats_simples_reverse, flats, flat]) ?_
  · intro fuel c0 o c' hs m hi0
    obtain ⟨f, rfl⟩ := execS_pos hs
    simp only [execS_forS] at hs
    rcases src_bindO hs with ⟨k, c2, hsi, hr⟩ | ⟨c1, hsi, hsl⟩
    · cases hr
      obtain ⟨m1, ex1, ho1, _⟩ := Ends.elim (simi f c0 _ _ hsi m hi0)
      exact Ends.exit (execCmds_stop_append _ ex1 (by simp)) ho1
    · obtain ⟨m1, ex1, k1⟩ := Ends.normal_elim (simi f c0 _ c1 hsi m hi0)
      -- the flag of this loop starts empty
      obtain ⟨m3, ex3, hf3, hi3, hc3', same3⟩ := simP0 c1 { m1 with ρ := m1.ρ.set (flagName s1.forCounter) "" }
        (k1.inv.set_flag s1.forCounter "") (Sem.set_same m1.ρ (flagName s1.forCounter) "")
      have k3 : Kept ctx T B s.forCounter c1 m m3 :=
        (k1.trans ⟨k1.inv.set_flag _ "", ⟨rfl, rfl, rfl⟩, FlagsKept.set_flag m1 "" (Nat.le_refl _)⟩ hfc1).trans
          ⟨hi3, hc3', FlagsKept.of_same same3 (Nat.le_refl _)⟩ hfc1
      exact Ends.after k3 (loop_simF simc simb (by omega) hB1 simP f c1 o c' hsl _ m3 ex3 hi3 hf3)
        (fun exl => execCmds_append ex1 (.cons (.simple rfl rfl) (execCmds_single (.loop exl)))) hfc1

mutual
theorem stmt_semF {ctx : Ctx} {T : List FEntry} {B : Nat} (hT : TableOK T) (hctx : CtxOK ctx T B) (st : Stmt) (hf : fragS (tnames T) st = true) :
    ∀ s s', ctxOf s = ctx → B ≤ s.forCounter → evalStmt conv st s = .ok ((), s') → StmtSemF ctx T B (fun f c => execS f st c) s s' := by
  match st with
  | .varDef vars vals =>
    simp only [varDef_eq_assign]
    exact fun s s' hc hB h => assign_anyF hT hctx hf hc h
  | .assign vars vals => exact fun s s' hc hB h => assign_anyF hT hctx hf hc h
  | .varDefCall vars call =>
    have hf : (vars.all (fun x => goodName2 x.name) && isCallE call && fragE (tnames T) call) = true := hf
    simp only [Bool.and_eq_true, varDefCall_eq_assignCall] at hf ⊢
    exact fun s s' hc hB h => callassign_semF hT hctx hf.1.1 hf.1.2 hf.2 hc h
  | .assignCall vars call =>
    have hf : (vars.all (fun x => goodName2 x.name) && isCallE call && fragE (tnames T) call) = true := hf
    simp only [Bool.and_eq_true] at hf
    exact fun s s' hc hB h => callassign_semF hT hctx hf.1.1 hf.1.2 hf.2 hc h
  | .brk => exact fun s s' hc hB h => brk_semF h
  | .cont => exact fun s s' hc hB h => cont_semF h
  | .print es => exact fun s s' hc hB h => print_semF hT hctx hf hc h
  | .panic e => exact fun s s' hc hB h => panic_semF hT hctx hf hc h
  | .ret vals => exact fun s s' hc hB h => ret_semF hT hctx hf hc h
  | .expr e =>
    have hf : (isCallE e && fragE (tnames T) e) = true := hf
    simp only [Bool.and_eq_true] at hf
    obtain ⟨name, rets, args, rfl⟩ := isCallE_inv hf.1
    exact fun s s' hc hB h => exprcall_semF hT hctx hf.2 hc h
  | .sliceAssign x index value =>
    have hf : (goodName2 x.name && fragE (tnames T) index && fragE (tnames T) value) = true := hf
    simp only [Bool.and_eq_true] at hf
    exact fun s s' hc hB h => sliceassign_semF hT hctx hf.1.1 hf.1.2 hf.2 hc h
  | .ifS cond body elifs els =>
    have hf : (fragE (tnames T) cond && fragSs (tnames T) body && fragEl (tnames T) elifs && fragSs (tnames T) els) = true := hf
    simp only [Bool.and_eq_true] at hf
    exact ifS_semF hT hctx hf.1.1.1 hf.1.2 (block_of_stmts (stmts_semF hT hctx body hf.1.1.2)) (elifs_semF hT hctx elifs hf.1.2)
      (else_of_stmts (stmts_semF hT hctx els hf.2))
  | .forS init cond incr body =>
    have hf : (fragO (tnames T) init && fragE (tnames T) cond && fragO (tnames T) incr && fragSs (tnames T) body) = true := hf
    simp only [Bool.and_eq_true] at hf
    exact forS_semF hT hctx hf.1.1.2 (opt_semF hT hctx init hf.1.1.1) (incr_semF hT hctx incr hf.1.2)
      (block_of_stmts (stmts_semF hT hctx body hf.2))
  | .funcDef _ _ _ _ _ => cases hf

theorem opt_semF {ctx : Ctx} {T : List FEntry} {B : Nat} (hT : TableOK T) (hctx : CtxOK ctx T B) (init : Option Stmt) (hf : fragO (tnames T) init = true) :
    ∀ s s', ctxOf s = ctx → B ≤ s.forCounter → evalInit conv init s = .ok ((), s') → StmtSemF ctx T B (srcIncrF init) s s' := by
  match init with
  | some i => exact stmt_semF hT hctx i hf
  | none => exact opt_none

theorem incr_semF {ctx : Ctx} {T : List FEntry} {B : Nat} (hT : TableOK T) (hctx : CtxOK ctx T B) (incr : Option Stmt) (hf : fragO (tnames T) incr = true) :
    ∀ s s' n rest, ctxOf s = ctx → s.fors = n :: rest → n < s.forCounter → B ≤ s.forCounter → B ≤ n → evalIncr conv incr s = .ok ((), s') →
      ∃ P nn mm rq, s' = reqSt (adv2 s (flats P).reverse nn mm) rq ∧ LinesOK ctx (s.forCounter + mm) (tnames T) (flats P) ∧ IncrStepF ctx T B incr P n ∧
        (∀ c m, Inv ctx T c m → m.ρ (flagName n) = "" →
          ∃ m1, ExecCmds P m .normal m1 ∧ FlagOKF incr n m1.ρ ∧ Inv ctx T c m1 ∧ Ctl m m1 ∧ ∀ x, x ≠ flagName n → m1.ρ x = m.ρ x) := by
  match incr with
  | none => exact fun s s' n rest hc _ _ hB _ h => incr_none s s' hc hB h
  | some i => exact fun s s' n rest hc hfo hn hB _ h => incr_some (stmt_semF hT hctx i hf) hc hfo hn hB h

theorem stmts_semF {ctx : Ctx} {T : List FEntry} {B : Nat} (hT : TableOK T) (hctx : CtxOK ctx T B) (body : List Stmt) (hf : fragSs (tnames T) body = true) :
    ∀ s s', ctxOf s = ctx → B ≤ s.forCounter → evalStmts conv body s = .ok ((), s') → StmtSemF ctx T B (fun f c => execSs f body c) s s' := by
  match body with
  | [] => exact stmts_nil
  | st :: rest =>
    have hf : (fragS (tnames T) st && fragSs (tnames T) rest) = true := hf
    simp only [Bool.and_eq_true] at hf
    exact stmts_cons (stmt_semF hT hctx st hf.1) (stmts_semF hT hctx rest hf.2)

theorem elifs_semF {ctx : Ctx} {T : List FEntry} {B : Nat} (hT : TableOK T) (hctx : CtxOK ctx T B) (elifs : List (Expr × List Stmt)) (hf : fragEl (tnames T) elifs = true) :
    ∀ ecs s s', ctxOf s = ctx → B ≤ s.forCounter → evalElifs conv elifs ecs s = .ok ((), s') →
      ∃ tree n mm rq, s' = reqSt (adv2 s (flatElifs tree).reverse n mm) rq ∧ LinesOK ctx (s.forCounter + mm) (tnames T) (flatElifs tree) ∧
        ∀ els elseT k0, s'.forCounter ≤ k0 → ElseSimF ctx T B els elseT k0 →
          ∀ fuel bs c o c', execEl fuel elifs bs els c = some (o, c') →
            ∀ m, Inv ctx T c m → GuardValsF ecs bs m.ρ →
              ∃ m' o', ExecElifs tree elseT m o' m' ∧ OutRel o o' ∧ c'.out = m'.out ∧
                ((∀ j, o ≠ .exit j) → Kept ctx T B s.forCounter c' m m') ∧ (∀ vs, o = .ret vs → ValsRv 0 vs m'.ρ) := by
  match elifs with
  | [] => exact fun ecs => elifs_done (Or.inl rfl)
  | (cnd, body) :: rest =>
    have hf : (fragE (tnames T) cnd && fragSs (tnames T) body && fragEl (tnames T) rest) = true := hf
    simp only [Bool.and_eq_true] at hf
    intro ecs
    match ecs with
    | [] => exact elifs_done (Or.inr rfl)
    | t :: cs => exact elifs_cons (block_of_stmts (stmts_semF hT hctx body hf.1.2)) (elifs_semF hT hctx rest hf.2 cs)
end

theorem block_semF {ctx : Ctx} {T : List FEntry} {B : Nat} (hT : TableOK T) (hctx : CtxOK ctx T B) (body : List Stmt) (hf : fragSs (tnames T) body = true) :
    ∀ s s', ctxOf s = ctx → B ≤ s.forCounter → evalBlock conv body s = .ok ((), s') → StmtSemF ctx T B (fun f c => execSs f body c) s s' :=
  block_of_stmts (stmts_semF hT hctx body hf)

theorem else_semF {ctx : Ctx} {T : List FEntry} {B : Nat} (hT : TableOK T) (hctx : CtxOK ctx T B) (els : List Stmt) (hf : fragSs (tnames T) els = true) :
    ∀ s s', ctxOf s = ctx → B ≤ s.forCounter → evalElse conv els s = .ok ((), s') →
      ∃ t n mm rq, s' = reqSt (adv2 s (flatElse t).reverse n mm) rq ∧ LinesOK ctx (s.forCounter + mm) (tnames T) (flatElse t) ∧ ElseSimF ctx T B els t s.forCounter :=
  else_of_stmts (stmts_semF hT hctx els hf)

end Tsh.Sem2
