/-
  Facts about `Sem/BashFs`: trailing line feeds, and that a write keeps `Holds`.
-/
import TshVerif.Sem.BashFs
namespace Tsh.BashFs

theorem stripNl_append_nl (b : Bytes) : stripNl (b ++ ['\n']) = stripNl b := by
  simp [stripNl]

theorem dropWhile_nl_of_head (r : Bytes) (h : (r.head? != some '\n') = true) : r.dropWhile (· == '\n') = r := by
  cases r with
  | nil => rfl
  | cons c cs =>
    have hc : c ≠ '\n' := by simpa using h
    have hb : (c == '\n') = false := by simpa using hc
    simp [List.dropWhile, hb]

theorem stripNl_of_noTrailingNl (b : Bytes) (h : noTrailingNl b = true) : stripNl b = b := by
  unfold stripNl
  have : (b.reverse.head? != some '\n') = true := by simpa [noTrailingNl, List.head?_reverse] using h
  rw [dropWhile_nl_of_head _ this, List.reverse_reverse]

theorem noTrailingNl_append (a s : Bytes) (hs : s ≠ []) (h : noTrailingNl s = true) : noTrailingNl (a ++ s) = true := by
  unfold noTrailingNl at *
  rw [List.getLast?_append]
  cases hl : s.getLast? with
  | none => simp [List.getLast?_eq_none_iff] at hl; exact absurd hl hs
  | some c => simpa [hl] using h

theorem bytesOf_append (a b : List Bytes) : bytesOf (a ++ b) = bytesOf a ++ bytesOf b := by
  simp [bytesOf]

theorem bytesOf_single (s : Bytes) : bytesOf [s] = s ++ ['\n'] := by
  simp [bytesOf]

theorem bytesOf_concat (ls : List Bytes) (s : Bytes) : bytesOf (ls ++ [s]) = (bytesOf ls ++ s) ++ ['\n'] := by
  simp [bytesOf_append, bytesOf_single]

variable {F : Type} [DecidableEq F]

theorem holds_step (fs : Fs F) (st : Store F) (o : Op F) (h : Holds fs st) : Holds (stepFs fs o) (stepStore st o) := by
  intro g
  unfold stepFs stepStore writeLine
  cases ha : o.append
  · by_cases hg : g = o.file
    · simp [truncWrite, Fs.put, Store.write, hg, bytesOf_single]
    · simp [truncWrite, Fs.put, Store.write, hg, h g]
  · by_cases hg : g = o.file
    · have hf := h o.file
      cases hl : st.lines o.file with
      | none => simp [appendWrite, Fs.put, Store.append, hg, hf, hl, bytesOf_single]
      | some ls => simp [appendWrite, Fs.put, Store.append, hg, hf, hl, bytesOf_append, bytesOf_single]
    · simp [appendWrite, Fs.put, Store.append, hg, h g]

end Tsh.BashFs
