/-
  The bash converter, once for both semantic proofs: how its state advances (`adv`, `adv2`, `adv3`), what a scalar operation emits, in any
  context, and what the emitted line computes - `Computes`, a fact about the store alone (`expand`, `expandInt`, `arith`, `evalTest` are
  the same functions in `Sem/Bash` and `Sem2/Bash`), which each model reads as its own step.
-/
import TshVerif.Sem2.Bash
import TshVerif.Lemmas.SemScan
import TshVerif.Lemmas.SrcVal
import TshVerif.Model.ConvBash
namespace Tsh.Sem
open Tsh Tsh.Tr Tsh.Bash

/-- new lines (latest first) and `n` new helper variables -/
def adv (s : St) (new : List Line) (n : Nat) : St := { s with code := new ++ s.code, varCounter := s.varCounter + n }

theorem adv_zero (s : St) : adv s [] 0 = s := rfl
theorem adv_adv (s : St) (a b : List Line) (m n : Nat) : adv (adv s a m) b n = adv s (b ++ a) (m + n) := by
  simp [adv, Nat.add_assoc]
theorem adv_funcs (s : St) (a : List Line) (n : Nat) : (adv s a n).funcs = s.funcs := rfl
theorem adv_varCounter (s : St) (a : List Line) (n : Nat) : (adv s a n).varCounter = s.varCounter + n := rfl

/-- `adv` with `m` new loops: what a statement does to the converter state -/
def adv2 (s : St) (new : List Line) (n m : Nat) : St :=
  { s with code := new ++ s.code, varCounter := s.varCounter + n, forCounter := s.forCounter + m }

theorem adv_eq_adv2 (s : St) (new : List Line) (n : Nat) : adv s new n = adv2 s new n 0 := rfl
theorem adv2_adv2 (s : St) (a b : List Line) (n1 m1 n2 m2 : Nat) :
    adv2 (adv2 s a n1 m1) b n2 m2 = adv2 s (b ++ a) (n1 + n2) (m1 + m2) := by
  simp [adv2, Nat.add_assoc]
theorem adv2_zero (s : St) : adv2 s [] 0 0 = s := rfl

theorem adv2_lines {s : St} {a b : List Line} (n m : Nat) (h : a = b) : adv2 s a n m = adv2 s b n m := by rw [h]

theorem addLine_adv2 {l : Line} {s s' : St} {a : Unit} (h : addLine l s = .ok (a, s')) : s' = adv2 s [l] 0 0 := by
  cases h; rfl

/-- `adv2` with `fc` new functions (the top level); `adv2 s a n m` is `adv3 s a n m 0` by `rfl` -/
def adv3 (s : St) (new : List Line) (n m fc : Nat) : St :=
  { s with code := new ++ s.code, varCounter := s.varCounter + n, forCounter := s.forCounter + m, funcCounter := s.funcCounter + fc }

theorem toString_str (x : String) : toString x = x := rfl

/-- what a scalar assignment line stores in `h` -/
inductive Computes (ρ : Store) : Line → String → String → Prop
  | assign {h t v : String} : expand ρ t = some v → Computes ρ (.assign h t) h v
  | arith {h l op r : String} {a b x : Int} : expandInt ρ l = some a → expandInt ρ r = some b → arith op a b = some x →
      Computes ρ (.assignArith h l op r) h (toString x)
  | test {h a b : String} {t : Test} {z : Bool} : (bit a && bit b) = true → evalTest ρ t = some z →
      Computes ρ (.assignTest h t a b) h (if z then a else b)

/-- the same three forms without the store: `line` is a scalar assignment to `h` -/
inductive Assigns : Line → String → Prop
  | assign {h t : String} : Assigns (.assign h t) h
  | arith {h l op r : String} : Assigns (.assignArith h l op r) h
  | test {h a b : String} {t : Test} : Assigns (.assignTest h t a b) h

section
variable {ρ : Store} {t tl tr : String}

theorem expandInt_int {k : Int} (h : expand ρ t = some (Src.Val.int k).render) : expandInt ρ t = some k := by
  simp only [expandInt, h, Option.bind]
  exact asInt_toString k

theorem expandInt_bool {b : Bool} (h : expand ρ t = some (Src.Val.bool b).render) : expandInt ρ t = some (if b then 1 else 0) := by
  simp only [expandInt, h, Option.bind]
  exact asInt_boolStr b

theorem expandInt_one (ρ : Store) : expandInt ρ "1" = some 1 := by
  have h : Complete ρ ("1" : String).toList ("1" : String).toList := complete_bool ρ true
  have e : asInt "1" = some 1 := asInt_boolStr true
  simp only [expandInt, h.toExpand, Option.bind]
  exact e

theorem evalTest_not {b : Bool} (hx : expandInt ρ t = some (if b then 1 else 0)) : evalTest ρ (.cmp t "-eq" "1") = some b := by
  simp only [evalTest, hx, expandInt_one, numTest]
  cases b <;> rfl

theorem evalTest_log {op : String} {a b v : Src.Val} (h : logVal op a b = some v)
    (hl : expand ρ tl = some a.render) (hr : expand ρ tr = some b.render) : ∃ z, v = .bool z ∧ evalTest ρ (.log tl op tr) = some z := by
  obtain ⟨x, y, rfl, rfl, hw⟩ := logVal_some h
  have ht : evalTest ρ (.log tl op tr) = if op == "&&" then some (x && y) else if op == "||" then some (x || y) else none := by
    simp only [evalTest, expandInt_bool hl, expandInt_bool hr]
    cases x <;> cases y <;> rfl
  split at hw
  · cases hw; rw [if_pos ‹_›] at ht; exact ⟨_, rfl, ht⟩
  split at hw
  · cases hw; rw [if_neg ‹_›, if_pos ‹_›] at ht; exact ⟨_, rfl, ht⟩
  · cases hw

theorem intCmp_numTest {op : String} {x y : Int} {v : Bool} (h : Src.intCmp op x y = some v) :
    let os := compareOpString op ⟨.int, false⟩
    (os.length == 0) = false ∧ (os == "==") = false ∧ (os == "!=") = false ∧ numTest os x y = some v := by
  unfold Src.intCmp at h
  by_cases h1 : op = "=="
  · subst h1; simp at h; simp [compareOpString, numTest, h]
  by_cases h2 : op = "!="
  · subst h2; simp at h; simp [compareOpString, numTest, h]
  by_cases h3 : op = ">"
  · subst h3; simp at h; simp [compareOpString, numTest, h]
  by_cases h4 : op = ">="
  · subst h4; simp at h; simp [compareOpString, numTest, h]
  by_cases h5 : op = "<"
  · subst h5; simp at h; simp [compareOpString, numTest, h]
  by_cases h6 : op = "<="
  · subst h6; simp at h; simp [compareOpString, numTest, h]
  simp [h1, h2, h3, h4, h5, h6] at h

theorem numTest_bool (x y : Bool) :
    numTest "-eq" (if x then 1 else 0) (if y then 1 else 0) = some (x == y) ∧
    numTest "-ne" (if x then 1 else 0) (if y then 1 else 0) = some (x != y) := by
  cases x <;> cases y <;> exact ⟨rfl, rfl⟩

theorem eqNe_some {α : Type} [BEq α] {op : String} {x y : α} {v : Src.Val}
    (h : (if op == "==" then some (Src.Val.bool (x == y)) else if op == "!=" then some (.bool (x != y)) else none) = some v) :
    op = "==" ∧ v = .bool (x == y) ∨ op = "!=" ∧ v = .bool (x != y) := by
  split at h
  · rename_i ho
    exact .inl ⟨eq_of_beq ho, (Option.some.inj h).symm⟩
  split at h
  · rename_i ho
    exact .inr ⟨eq_of_beq ho, (Option.some.inj h).symm⟩
  · cases h

theorem evalTest_cmp {vt : ValueType} {op : String} {a b v : Src.Val} (h : Src.cmpVal vt op a b = some v)
    (hl : expand ρ tl = some a.render) (hr : expand ρ tr = some b.render) :
    ∃ z, v = .bool z ∧ evalTest ρ (.cmp tl (compareOpString op vt) tr) = some z := by
  obtain ⟨dt, sl⟩ := vt
  unfold Src.cmpVal at h
  split at h
  · cases h
  rename_i hsl
  obtain rfl : sl = false := by simpa using hsl
  split at h
  · -- booleans are compared as the integers 0 and 1
    rename_i x y hdt
    cases hdt
    have hl := expandInt_bool hl
    have hr := expandInt_bool hr
    rcases eqNe_some h with ⟨rfl, rfl⟩ | ⟨rfl, rfl⟩
    · exact ⟨_, rfl, by simp [compareOpString, evalTest, hl, hr, (numTest_bool x y).1]⟩
    · exact ⟨_, rfl, by simp [compareOpString, evalTest, hl, hr, (numTest_bool x y).2]⟩
  · rename_i x y hdt
    cases hdt
    cases hz : Src.intCmp op x y with
    | none => rw [hz] at h; cases h
    | some z =>
      rw [hz] at h; cases h
      obtain ⟨_, g2, g3, g4⟩ := intCmp_numTest hz
      exact ⟨z, rfl, by simp only [evalTest, g2, g3, expandInt_int hl, expandInt_int hr, g4, Bool.false_eq_true, if_false]⟩
  · rename_i x y hdt
    cases hdt
    rcases eqNe_some h with ⟨rfl, rfl⟩ | ⟨rfl, rfl⟩ <;>
      exact ⟨_, rfl, by simp [compareOpString, evalTest, hl, hr, Src.Val.render]⟩
  · cases h

theorem binVal_int {vt : ValueType} {op : String} {va vb w : Src.Val} (hs : vt.isSlice = false) (hd : vt.dt = .int)
    (h : Src.binVal vt op va vb = some w) : ∃ x y z, va = .int x ∧ vb = .int y ∧ arith op x y = some z ∧ w = .int z := by
  unfold Src.binVal at h
  simp only [hs, Bool.false_eq_true, if_false, hd] at h
  cases va <;> cases vb <;> simp at h
  rename_i x y
  cases hz : arith op x y with
  | none => simp [hz] at h
  | some z => simp [hz] at h; exact ⟨x, y, z, rfl, rfl, hz, h.symm⟩

theorem binVal_str {vt : ValueType} {va vb w : Src.Val} (hs : vt.isSlice = false) (hd : vt.dt = .string)
    (h : Src.binVal vt "+" va vb = some w) : ∃ x y, va = .str x ∧ vb = .str y ∧ w = .str (x ++ y) := by
  unfold Src.binVal at h
  simp only [hs, Bool.false_eq_true, if_false, hd] at h
  cases va <;> cases vb <;> simp at h
  rename_i x y
  exact ⟨x, y, rfl, rfl, h.symm⟩

end

end Tsh.Sem

namespace Tsh.Sem2
open Tsh Tsh.Tr Tsh.Bash Tsh.Sem
open Tsh.Sem.Src (Val)

/-- where code is being translated / executed: at top level, or inside function number `k`.  `Ctx` and the names ending in `F`
    ("in any context") belong to the proof with functions; the scalar proof reads them at top level. -/
structure Ctx where
  inFn : Bool
  k : Nat

/-- the shell name of a variable -/
def Ctx.mg (ctx : Ctx) (x : String) (g : Bool) : String := if ctx.inFn && !g then fnPrefix ctx.k ++ x else x

def ctxOf (s : St) : Ctx := ⟨inFunction s, s.funcCounter⟩

theorem varName_ctx (s : St) (x : String) (g : Bool) : varName s x g = (ctxOf s).mg x g := by
  have e : ∀ n : Nat, toString n = n.repr := fun _ => rfl
  by_cases h : (inFunction s && !g) = true <;> simp [varName, Ctx.mg, ctxOf, fnPrefix, h, toString_str, e]

def Ctx.hn (ctx : Ctx) (j : Nat) : String := ctx.mg (helperName j) false
def Ctx.tn (ctx : Ctx) (j : Nat) : String := ctx.mg (tmpName j) false

theorem hn_top {s : St} (h0 : s.funcs = []) (k : Nat) : (ctxOf s).hn k = helperName k := by
  simp [Ctx.hn, Ctx.mg, ctxOf, inFunction, h0]

theorem ctxOf_adv (s : St) (new : List Line) (n : Nat) : ctxOf (adv s new n) = ctxOf s := rfl

theorem hn_eq (s : St) (k : Nat) : varName s (s!"_h{k}") false = (ctxOf s).hn k := by
  rw [varName_ctx]; rfl

theorem varName_upd (s : St) (a : Nat) (b : List Line) (x : String) (g : Bool) :
    varName { s with varCounter := a, code := b } x g = (ctxOf s).mg x g := by
  rw [varName_ctx]; rfl

theorem varName_upd1 (s : St) (a : Nat) (x : String) (g : Bool) :
    varName { s with varCounter := a } x g = (ctxOf s).mg x g := by
  rw [varName_ctx]; rfl

theorem varEvaluation_specF (name : String) (g : Bool) (s : St) :
    varEvaluation name g s = .ok ("${" ++ (ctxOf s).mg name g ++ "}", s) := by
  simp only [varEvaluation, bind, Tr.get, pure, varEvalString, varName_ctx]

/-- most converter operations: a fresh helper variable, one line `L` that assigns it, its evaluation -/
theorem helperOp_specF (L : String → Line) (s : St) :
    (nextHelperVar >>= fun h => (Tr.get >>= fun s' => addLine (L (varName s' h false))) >>= fun _ => varEvaluation h false) s =
      .ok ("${" ++ (ctxOf s).hn s.varCounter ++ "}", adv s [L ((ctxOf s).hn s.varCounter)] 1) := by
  simp only [bind, nextHelperVar, varEvaluation, Tr.get, addLine, Tr.modify, pure, varEvalString, varName_upd, adv]
  rfl

/-- a converter operation wrote one scalar line, which computes `R` of the values of its two operand texts, and returned the
    text of the helper variable the line assigns -/
def OpLineF (R : Val → Val → Val → Prop) (l r t : String) (s s' : St) : Prop :=
  ∃ line, t = "${" ++ (ctxOf s).hn s.varCounter ++ "}" ∧ s' = adv s [line] 1 ∧ Assigns line ((ctxOf s).hn s.varCounter) ∧
    ∀ a b v, R a b v → ∀ ρ, Complete ρ l.toList a.render.toList → Complete ρ r.toList b.render.toList →
      Computes ρ line ((ctxOf s).hn s.varCounter) v.render

section
variable {e l op r t : String} {vt : ValueType} {s s' : St}

/-- `!e`, as an operation that ignores its right operand -/
theorem unaryOp_semF (h : unaryOp e op s = .ok (t, s')) :
    op = "!" ∧ OpLineF (fun a _ v => ∃ x, a = .bool x ∧ v = .bool (!x)) e r t s s' := by
  by_cases hop : op = "!"
  · subst hop
    simp only [unaryOp, beq_self_eq_true, if_true] at h
    cases (helperOp_specF (fun h => .assignTest h (.cmp e "-eq" "1") "0" "1") s).symm.trans h
    refine ⟨rfl, _, rfl, rfl, .test, ?_⟩
    rintro _ _ _ ⟨b, rfl, rfl⟩ ρ hx _
    have := Computes.test (ρ := ρ) (h := (ctxOf s).hn s.varCounter) (a := "0") (b := "1") rfl (evalTest_not (expandInt_bool hx.toExpand))
    cases b <;> exact this
  · simp [unaryOp, bind, nextHelperVar, hop, Tr.fail] at h

theorem binaryOp_semF (h : binaryOp l op r vt s = .ok (t, s')) : OpLineF (fun a b v => Sem.Src.binVal vt op a b = some v) l r t s s' := by
  cases hs : vt.isSlice with
  | true => simp [binaryOp, notAllowedBin, bind, nextHelperVar, hs, Tr.fail] at h
  | false =>
  cases hd : vt.dt with
  | int =>
    by_cases ho : (op == "*" || op == "/" || op == "%" || op == "+" || op == "-") = true
    · simp only [binaryOp, hs, hd, ho, Bool.false_eq_true, if_false, if_true] at h
      cases (helperOp_specF (fun h => .assignArith h l op r) s).symm.trans h
      refine ⟨_, rfl, rfl, .arith, fun a b v hv ρ hl hr => ?_⟩
      obtain ⟨x, y, z, rfl, rfl, hz, rfl⟩ := binVal_int hs hd hv
      exact .arith (expandInt_int hl.toExpand) (expandInt_int hr.toExpand) hz
    · simp [binaryOp, notAllowedBin, bind, nextHelperVar, hs, hd, ho, Tr.fail] at h
  | string =>
    by_cases ho : op = "+"
    · subst ho
      simp only [binaryOp, hs, hd, Bool.false_eq_true, if_false, beq_self_eq_true, if_true, toString_str] at h
      cases (helperOp_specF (fun h => .assign h (l ++ r)) s).symm.trans h
      refine ⟨_, rfl, rfl, .assign, fun a b v hv ρ hl hr => ?_⟩
      obtain ⟨x, y, rfl, rfl, rfl⟩ := binVal_str hs hd hv
      have := hl.append hr
      rw [← String.toList_append, ← String.toList_append] at this
      exact .assign this.toExpand
    · simp [binaryOp, notAllowedBin, bind, nextHelperVar, hs, hd, ho, Tr.fail] at h
  | _ => simp [binaryOp, notAllowedBin, bind, nextHelperVar, hs, hd, Tr.fail] at h

theorem comparisonOp_semF (h : comparisonOp l op r vt s = .ok (t, s')) : OpLineF (fun a b v => Sem.Src.cmpVal vt op a b = some v) l r t s s' := by
  -- unfolded by hand: the unifier would first unfold `comparisonOpWith` and get stuck evaluating its test
  unfold comparisonOp comparisonOpWith at h
  cases hos : (compareOpString op vt).length == 0 with
  | true => simp [hos, Tr.fail] at h
  | false =>
    rw [if_neg (by simp [hos])] at h
    cases (helperOp_specF (fun h => .assignTest h (.cmp l (compareOpString op vt) r) "1" "0") s).symm.trans h
    refine ⟨_, rfl, rfl, .test, fun a b v hv ρ hl hr => ?_⟩
    obtain ⟨z, rfl, hz⟩ := evalTest_cmp hv hl.toExpand hr.toExpand
    exact .test (a := "1") (b := "0") rfl hz

theorem logicalOp_semF (h : logicalOp l op r s = .ok (t, s')) : OpLineF (fun a b v => logVal op a b = some v) l r t s s' := by
  unfold logicalOp at h
  by_cases ho : (op == "&&" || op == "||") = true
  · rw [if_pos ho] at h
    cases (helperOp_specF (fun h => .assignTest h (.log l op r) "1" "0") s).symm.trans h
    refine ⟨_, rfl, rfl, .test, fun a b v hv ρ hl hr => ?_⟩
    obtain ⟨z, rfl, hz⟩ := evalTest_log hv hl.toExpand hr.toExpand
    exact .test (a := "1") (b := "0") rfl hz
  · simp [ho, Tr.fail] at h

end

end Tsh.Sem2
