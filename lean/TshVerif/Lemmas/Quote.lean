/-
  Quoting: a model of how bash reads the text after an opening double quote (Bash Reference Manual
  3.1.2.3 "Double Quotes"), and the proof that the literal escaping of the bash converter
  (`stringToString` = `StringToString` in converters/bash/converter.go) is inverted by it (`dq_roundtrip`; with `$` or a
  backquote it is not: `dq_dollar_expands`).  Then a model of how bash splits a command line into words (`shSplit`), with
  what Props/C18 needs of it.  The converter quotes the program name too: the statement about its command lines is
  `C18.command_words`, `words_of_command` is the case of a bare name written without quotes.
-/
import TshVerif.Model.ConvBash
namespace Tsh.Bash
open Tsh

inductive DqRes
  | ok (val rest : List Char)     -- the quoted text as bash sees it, and the input after the closing quote
  | expands                        -- an unescaped `$` or backquote starts an expansion / command substitution
  | unterminated
deriving DecidableEq, Repr

/-- `dqScan acc input`: `input` is what follows an opening `"`.  Inside double quotes the backslash
    keeps its special meaning only before `$`, backquote, `"`, `\` and newline (backslash-newline is
    removed); every other character stands for itself, except `$` and backquote. -/
def dqScan : List Char → List Char → DqRes
  | _, [] => .unterminated
  | acc, c :: rest =>
    if c == '"' then .ok acc rest
    else if c == '\\' then
      match rest with
      | [] => .unterminated
      | d :: rest' =>
        if d == '\\' || d == '"' || d == '$' || d == '`' then dqScan (acc ++ [d]) rest'
        else if d == '\n' then dqScan acc rest'
        else dqScan (acc ++ ['\\', d]) rest'
    else if c == '$' || c == '`' then .expands
    else dqScan (acc ++ [c]) rest

def plainChar (c : Char) : Bool := c != '$' && c != '`'

theorem dqScan_quote (acc rest : List Char) : dqScan acc ('"' :: rest) = .ok acc rest := by
  rw [dqScan.eq_def]; simp

theorem dqScan_esc (acc rest : List Char) (c : Char) (hc : plainChar c = true) :
    dqScan acc (escChar c ++ rest) = dqScan (acc ++ [c]) rest := by
  simp only [plainChar, Bool.and_eq_true, bne_iff_ne, ne_eq] at hc
  by_cases h1 : c = '\\'
  · subst h1; rw [dqScan.eq_def]; simp [escChar]
  · by_cases h2 : c = '"'
    · subst h2; rw [dqScan.eq_def]; simp [escChar]
    · rw [dqScan.eq_def]; simp [escChar, h1, h2, hc.1, hc.2]

theorem dqScan_special (acc rest : List Char) (c : Char) (hc : plainChar c = false) :
    dqScan acc (escChar c ++ rest) = .expands := by
  have : c = '$' ∨ c = '`' := by
    by_cases h3 : c = '$'
    · exact Or.inl h3
    · by_cases h4 : c = '`'
      · exact Or.inr h4
      · simp [plainChar, h3, h4] at hc
  rcases this with rfl | rfl <;> (rw [dqScan.eq_def]; simp [escChar])

theorem dqScan_escaped : ∀ (s acc rest : List Char), (∀ c ∈ s, plainChar c = true) →
    dqScan acc (s.flatMap escChar ++ rest) = dqScan (acc ++ s) rest
  | [], acc, rest, _ => by rw [List.append_nil]; rfl
  | c :: s, acc, rest, h => by
    rw [List.flatMap_cons, List.append_assoc, dqScan_esc _ _ _ (h c (.head _)), dqScan_escaped s _ _ fun d hd => h d (.tail _ hd),
      List.append_assoc]; rfl

theorem dq_roundtrip (s acc rest : List Char) (h : ∀ c ∈ s, plainChar c = true) :
    dqScan acc (s.flatMap escChar ++ '"' :: rest) = .ok (acc ++ s) rest := by
  rw [dqScan_escaped s acc _ h, dqScan_quote]

/-- the known limitation: a literal that contains `$` or a backquote is not opaque -/
theorem dq_dollar_expands : ∀ (s acc rest : List Char), (∃ c ∈ s, plainChar c = false) →
    dqScan acc (s.flatMap escChar ++ rest) = .expands
  | [], _, _, h => by obtain ⟨_, hc, _⟩ := h; cases hc
  | c :: s, acc, rest, h => by
    rw [List.flatMap_cons, List.append_assoc]
    cases hc : plainChar c with
    | false => exact dqScan_special _ _ _ hc
    | true =>
      rw [dqScan_esc _ _ _ hc]
      obtain ⟨d, hd, hp⟩ := h
      cases hd with
      | head => rw [hc] at hp; cases hp
      | tail _ hd => exact dq_dollar_expands s _ _ ⟨d, hd, hp⟩

theorem stringToString_toList (s : String) : (stringToString s).toList = s.toList.flatMap escChar := by
  simp [stringToString]

theorem stringToString_append (a b : String) : stringToString (a ++ b) = stringToString a ++ stringToString b := by
  apply String.toList_inj.mp
  simp [stringToString_toList, String.toList_append]

def plainString (s : String) : Bool := s.toList.all plainChar

theorem stringToString_roundtrip (s : String) (rest : List Char) (h : plainString s = true) :
    dqScan [] ((stringToString s).toList ++ '"' :: rest) = .ok s.toList rest := by
  rw [stringToString_toList]
  have := dq_roundtrip s.toList [] rest (by simpa [plainString] using h)
  simpa using this

/-- characters that may appear unquoted in a word without any special meaning -/
def bareChar (c : Char) : Bool := c.isAlphanum || c == '_' || c == '-' || c == '.' || c == '/'

/-- One-pass model of how bash splits a simple command line into words: blanks separate words
    outside quotes, a word is a run of bare characters and double-quoted parts; inside quotes the
    rules of `dqScan` apply.  `none` = the line uses something this model does not cover (an
    expansion, another metacharacter, an unterminated quote). -/
def shSplit : Bool → Option (List Char) → List Char → Option (List (List Char))
  | false, cur, [] => some cur.toList
  | true, _, [] => none
  | false, cur, c :: rest =>
      if c == ' ' then
        match cur with
        | none => shSplit false none rest
        | some w => (shSplit false none rest).map (w :: ·)
      else if c == '"' then shSplit true (some (cur.getD [])) rest
      else if bareChar c then shSplit false (some (cur.getD [] ++ [c])) rest
      else none
  | true, cur, c :: rest =>
      if c == '"' then shSplit false cur rest
      else if c == '\\' then
        match rest with
        | [] => none
        | d :: rest' =>
          if d == '\\' || d == '"' || d == '$' || d == '`' then shSplit true (some (cur.getD [] ++ [d])) rest'
          else if d == '\n' then shSplit true cur rest'
          else shSplit true (some (cur.getD [] ++ ['\\', d])) rest'
      else if c == '$' || c == '`' then none
      else shSplit true (some (cur.getD [] ++ [c])) rest

theorem shSplit_inq (acc txt : List Char) : ∀ (v rest : List Char), dqScan acc txt = .ok v rest →
    shSplit true (some acc) txt = shSplit false (some v) rest := by
  fun_induction dqScan acc txt with
  | case2 acc c rest hc =>
    intro v r h
    cases h
    rw [shSplit.eq_def]; simp [hc]
  | case4 acc c h1 h2 d rest' hd ih =>
    intro v rest h
    rw [shSplit.eq_def]; simp only [h1, h2, hd]
    simpa using ih v rest h
  | case5 acc c h1 h2 d rest' hd hn ih =>
    intro v rest h
    rw [shSplit.eq_def]; simp only [h1, h2, hd, hn]
    simpa using ih v rest h
  | case6 acc c h1 h2 d rest' hd hn ih =>
    intro v rest h
    rw [shSplit.eq_def]; simp only [h1, h2, hd, hn]
    simpa using ih v rest h
  | case8 acc c rest h1 h2 h3 ih =>
    intro v r h
    rw [shSplit.eq_def]; simp only [h1, h2, h3]
    simpa using ih v r h
  | _ => intro v rest h; cases h

theorem bare_ne (c : Char) (h : bareChar c = true) : (c == ' ') = false ∧ (c == '"') = false := by
  constructor <;> refine Bool.eq_false_iff.mpr fun he => ?_ <;> rw [beq_iff_eq] at he <;> subst he <;> exact absurd h (by decide)

theorem shSplit_bare_step (cur : Option (List Char)) (c : Char) (rest : List Char) (h : bareChar c = true) :
    shSplit false cur (c :: rest) = shSplit false (some (cur.getD [] ++ [c])) rest := by
  obtain ⟨h1, h2⟩ := bare_ne c h
  rw [shSplit.eq_def]; simp [h1, h2, h]

theorem shSplit_bare : ∀ (name cur rest : List Char), (∀ c ∈ name, bareChar c = true) →
    shSplit false (some cur) (name ++ rest) = shSplit false (some (cur ++ name)) rest := by
  intro name
  induction name with
  | nil => intro cur rest _; simp
  | cons c name ih =>
    intro cur rest h
    rw [List.cons_append, shSplit_bare_step _ _ _ (h c (by simp))]
    simp only [Option.getD_some]
    rw [ih _ _ (fun d hd => h d (by simp [hd]))]
    simp

/-- ` "a1" "a2" …`, each `a` already escaped -/
def quotedRaw (args : List (List Char)) : List Char := args.flatMap fun a => ' ' :: '"' :: (a ++ ['"'])

theorem shSplit_end (w : List Char) : shSplit false (some w) [] = some [w] := by
  rw [shSplit.eq_def]; simp

theorem shSplit_args : ∀ (args : List (List Char)) (w : List Char), (∀ a ∈ args, ∀ c ∈ a, plainChar c = true) →
    shSplit false (some w) (quotedRaw (args.map (·.flatMap escChar))) = some (w :: args) := by
  intro args
  induction args with
  | nil => intro w _; simp [quotedRaw, shSplit_end]
  | cons a args ih =>
    intro w h
    have e : quotedRaw ((a :: args).map (·.flatMap escChar)) =
        ' ' :: '"' :: (a.flatMap escChar ++ '"' :: quotedRaw (args.map (·.flatMap escChar))) := by
      simp [quotedRaw]
    rw [e, shSplit.eq_def]
    simp only [beq_self_eq_true, if_true]
    rw [shSplit.eq_def]
    simp only [show ('"' == ' ') = false by decide, Bool.false_eq_true, if_false, beq_self_eq_true, if_true, Option.getD_none]
    rw [shSplit_inq [] _ a _ (by simpa using dq_roundtrip a [] _ (h a (by simp)))]
    rw [ih a (fun b hb => h b (by simp [hb]))]
    simp

/-- bash's word splitting of `name "a1" … "an"` (arguments escaped as by `stringToString`) yields exactly
    `name, a1, …, an` -- empty strings, blanks, quotes, backslashes, glob characters, leading dashes included -/
theorem words_of_command (name : List Char) (args : List (List Char)) (hn : name ≠ [])
    (hb : ∀ c ∈ name, bareChar c = true) (ha : ∀ a ∈ args, ∀ c ∈ a, plainChar c = true) :
    shSplit false none (name ++ quotedRaw (args.map (·.flatMap escChar))) = some (name :: args) := by
  cases name with
  | nil => exact absurd rfl hn
  | cons c name =>
    rw [List.cons_append, shSplit_bare_step _ _ _ (hb c (by simp))]
    simp only [Option.getD_none, List.nil_append]
    rw [shSplit_bare name [c] _ (fun d hd => hb d (by simp [hd]))]
    simpa using shSplit_args args (c :: name) ha

end Tsh.Bash
