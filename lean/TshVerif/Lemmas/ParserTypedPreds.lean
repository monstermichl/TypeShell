/-
  The vocabulary of the typed pass: `CtxOK` and the predicates "the checker of Model/PTyped.lean accepts", with the refinements
  that `ExprIH` / `StmtIH` use.
-/
import TshVerif.Lemmas.ParserExprWalk
namespace Tsh.Parser
open Tsh Tsh.Tr Tsh.LexTables

/-- every variable and function the context knows has types of the language -/
structure CtxOK (c : Ctx) : Prop where
  vars : ∀ e ∈ c.vars, PT.known e.2.vt = true
  funcs : ∀ e ∈ c.funcs, e.2.rets.all PT.basic = true ∧ e.2.params.all (fun p => PT.basic p.vt) = true

def exprP (e : Expr) : Prop := PT.expr e = true
def argsP (es : List Expr) : Prop := PT.args_ es = true
def chainP (e : Expr) : Prop := PT.chain e = true
def exprsP (es : List Expr) : Prop := PT.exprs es = true

theorem exprP.out {e : Expr} (h : exprP e) : PT.expr e = true := h
theorem argsP.out {es : List Expr} (h : argsP es) : PT.args_ es = true := h
theorem chainP.out {e : Expr} (h : chainP e) : PT.chain e = true := h

/-- `ValsShape` of typed values -/
def valsP (first : Bool) (vals : List Expr) : Prop :=
  vals ≠ [] ∧ (PT.vals1 vals = true ∨ (first = true ∧ ∃ c, vals = [c] ∧ exprP c ∧ isMulti c))

def builtinP (mn : Nat) (mx : Option Nat) (args : List Expr) : Prop :=
  argsP args ∧ mn ≤ args.length ∧ ∀ m, mx = some m → args.length ≤ m

def stmtP (st : Stmt) : Prop := PT.stmt st = true

def stmtsP (ss : List Stmt) : Prop := PT.stmts ss = true
def elifsP (es : List (Expr × List Stmt)) : Prop := PT.elifs_ es = true
def blockP (cb : List Stmt → Bool → Bool) (ss : List Stmt) : Prop := stmtsP ss ∧ cb ss true = true
def condP (c : Expr) : Prop := exprP c ∧ (Expr.valueType c).isBool = true

theorem stmtP.out {s : Stmt} (h : stmtP s) : PT.stmt s = true := h
theorem stmtsP.out {s : List Stmt} (h : stmtsP s) : PT.stmts s = true := h
theorem elifsP.out {s : List (Expr × List Stmt)} (h : elifsP s) : PT.elifs_ s = true := h

/-- `exprP` and `tagOK` (Lemmas/ParserStmtWalk) -/
def tagP (tag : Expr) : Prop :=
  exprP tag ∧ (Expr.valueType tag).isSlice = false ∧ (Expr.valueType tag).dt ≠ .unknown ∧ (Expr.valueType tag).dt ≠ .multiple

def optP (o : Option Stmt) : Prop := PT.opt o = true
theorem optP.out {o : Option Stmt} (h : optP o) : PT.opt o = true := h

end Tsh.Parser
