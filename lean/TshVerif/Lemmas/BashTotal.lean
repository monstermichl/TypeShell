/-
  Emit totality for the bash target: a typed AST (Model/Typed.lean) is translated by the transpiler walk
  + bash converter model without an error and without a panic.  Instance of the generic typed walk (Lemmas/Hoare.lean)
  with placement waived; the invariant is the height of the loop stack, the one thing a bash operation reaches for
  (the guarded increment reads its top).  At the end: a typed AST is well-formed (`typedWalk_wf`).
-/
import TshVerif.Model.Wf
import TshVerif.Lemmas.BashRun
import TshVerif.Lemmas.Hoare
namespace Tsh.Bash
open Tsh Tsh.Tr

def Open (k : Nat) (s : St) : Prop := s.fors.length = k

abbrev KeepsAll {α : Type} (m : BM α) : Prop := Tr.KeepsAll Open m

def Runs {α : Type} (m : BM α) : Prop := ∀ s, ∃ a s', m s = .ok (a, s')

theorem KeepsAll.runs {α : Type} {m : BM α} (h : KeepsAll m) : Runs m :=
  fun s => let ⟨a, s', e, _⟩ := h _ s rfl; ⟨a, s', e⟩

theorem ka_modify (f : St → St) (hf : ∀ s, (f s).fors = s.fors) : KeepsAll (Tr.modify f : BM Unit) :=
  fun _ s h => ⟨(), f s, rfl, (congrArg List.length (hf s)).trans h⟩
theorem ka_addLine (l : Line) : KeepsAll (addLine l) := ka_modify _ fun _ => rfl
theorem ka_nextHelperVar : KeepsAll nextHelperVar := fun _ _ h => ⟨_, _, rfl, h⟩

theorem ka_unaryOp (e : String) : KeepsAll (unaryOp e "!") := by
  unfold unaryOp
  refine ka_bind ka_nextHelperVar (fun h => ?_)
  simp only [beq_self_eq_true, if_true]
  exact fun _ _ h => ⟨_, _, rfl, h⟩

theorem ka_binaryOp (l op r : String) (vt : ValueType) (h : binaryAllowed vt op = true) : KeepsAll (binaryOp l op r vt) := by
  unfold binaryOp
  refine ka_bind ka_nextHelperVar (fun hv => ?_)
  simp only [binaryAllowed, Bool.and_eq_true, Bool.or_eq_true, Bool.not_eq_true', beq_iff_eq] at h
  obtain ⟨hs, h⟩ := h
  simp only [hs, Bool.false_eq_true, if_false]
  rcases h with ⟨hd, ho⟩ | ⟨hd, ho⟩
  · rw [hd]
    have : (op == "*" || op == "/" || op == "%" || op == "+" || op == "-") = true := by
      simp only [Bool.or_eq_true, beq_iff_eq]; exact ho
    simp only [this, if_true]
    exact fun _ _ h => ⟨_, _, rfl, h⟩
  · rw [hd]
    simp only [ho, beq_self_eq_true, if_true]
    exact fun _ _ h => ⟨_, _, rfl, h⟩

theorem compareOpString_ne (op : String) (vt : ValueType) (h : compareAllowed vt op = true) :
    ((compareOpString op vt).length == 0) = false := by
  simp only [compareAllowed, Bool.and_eq_true, Bool.or_eq_true, Bool.not_eq_true', beq_iff_eq] at h
  obtain ⟨hs, h⟩ := h
  unfold compareOpString
  simp only [hs, Bool.false_eq_true, if_false]
  rcases h with (⟨hd, ho⟩ | ⟨hd, ho⟩) | ⟨hd, ho⟩
  · rw [hd]; rcases ho with rfl | rfl <;> simp
  · rw [hd]; rcases ho with ((((rfl | rfl) | rfl) | rfl) | rfl) | rfl <;> simp
  · rw [hd]; rcases ho with rfl | rfl <;> simp

theorem ka_comparisonOp (l op r : String) (vt : ValueType) (h : compareAllowed vt op = true) : KeepsAll (comparisonOp l op r vt) := by
  unfold comparisonOp comparisonOpWith
  simp only [compareOpString_ne op vt h, Bool.false_eq_true, if_false]
  exact fun _ _ h => ⟨_, _, rfl, h⟩

theorem ka_logicalOp (l op r : String) (h : (op == "&&" || op == "||") = true) : KeepsAll (logicalOp l op r) := by
  unfold logicalOp
  simp only [h, if_true]
  exact fun _ _ h => ⟨_, _, rfl, h⟩

theorem keeps_funcCall (k : Nat) (n : String) (a : List String) (r : List ValueType) (u : Bool) :
    KeepsQ (Open k) (funcCall n a r u) (fun vs => u = true → vs.length = r.length) := by
  cases u
  · exact fun _ h => ⟨_, _, rfl, h, nofun⟩
  · exact fun s h => ⟨_, _, C02.funcCall_run n a r s, h, fun _ => C02.copyVals_length _ _ _⟩

theorem keeps_appCall (k : Nat) (cs : List (String × List String)) (u : Bool) :
    KeepsQ (Open k) (appCall cs u) (fun vs => u = true → vs.length = 3) := by
  cases u
  · exact fun _ h => ⟨_, _, rfl, h, fun _ => rfl⟩
  · exact fun _ h => ⟨_, _, rfl, h, fun _ => rfl⟩

theorem bash_texprOps (k : Nat) : TExprOps conv (Open k) where
  stringToString _ := ka_pure _ k
  varDefinition _ _ _ := fun _ h => ⟨_, _, rfl, h⟩
  unaryOperation _ _ _ := ka_unaryOp _ k
  binaryOperation _ _ _ _ _ h := ka_binaryOp _ _ _ _ h k
  -- `dsimp` first: the unifier would unfold `comparisonOp` instead, slowly
  comparison _ _ _ _ _ h := by dsimp only [conv]; exact ka_comparisonOp _ _ _ _ h k
  logicalOperation _ _ _ _ _ h := ka_logicalOp _ _ _ h k
  varEvaluation _ _ _ := fun _ h => ⟨_, _, rfl, h⟩
  sliceInstantiation vs _ := fun s h => ⟨_, _, C03.sliceInstantiation_run vs s, h⟩
  sliceEvaluation _ _ _ := fun _ h => ⟨_, _, rfl, h⟩
  sliceLen _ _ := fun _ h => ⟨_, _, rfl, h⟩
  stringSubscript _ _ _ _ := fun _ h => ⟨_, _, rfl, h⟩
  stringLen _ _ := fun _ h => ⟨_, _, rfl, h⟩
  funcCall := keeps_funcCall k
  appCall := keeps_appCall k
  input _ _ := fun _ h => ⟨_, _, rfl, h⟩
  copy _ _ _ _ := fun _ h => ⟨_, _, rfl, h⟩
  exists_ _ _ := fun _ h => ⟨_, _, rfl, h⟩
  readFile _ _ := fun _ h => ⟨_, _, rfl, h⟩

theorem evalExpr_runs (e : Expr) (h : e.typed = true) (used : Bool) : Runs (evalExpr conv e used) :=
  KeepsAll.runs fun k => (evalExpr_typed (bash_texprOps k) e h used).keeps

theorem evalArgs_runs (es : List Expr) (h : typedArgs es = true) : Runs (evalArgs conv es) :=
  KeepsAll.runs fun k => evalArgs_typed (bash_texprOps k) es h

theorem evalAppChain_runs (e : Expr) (h : typedChain e = true) : Runs (evalAppChain conv e) :=
  KeepsAll.runs fun k => evalAppChain_typed conv _ (bash_texprOps k) e h

theorem ka_storeRets (vs : List String) (i : Nat) : KeepsAll (storeRets vs i) :=
  fun _ s h => ⟨_, _, C02.storeRets_run vs i s, h⟩

theorem evalConds_length : ∀ (elifs : List (Expr × List Stmt)) (s s' : St) (cs : List String),
    evalConds conv elifs s = .ok (cs, s') → cs.length = elifs.length :=
  Tr.evalConds_length conv

theorem ka_funcStart (n : String) (ps : List String) : KeepsAll (conv.funcStart n ps) :=
  fun _ s h => ⟨_, _, C02.funcStart_run n ps s, h⟩

theorem ka_ret (vs : List String) : KeepsAll (conv.ret vs) := by
  show KeepsAll (do storeRets vs 0; addLine .ret : BM Unit)
  exact ka_bind (ka_storeRets _ _) (fun _ => ka_addLine _)

theorem open_cons {k : Nat} {s : St} (h : Open (k + 1) s) : ∃ n rest, s.fors = n :: rest := by
  cases hf : s.fors with
  | nil => rw [Open, hf] at h; cases h
  | cons n rest => exact ⟨n, rest, rfl⟩

/-- `break`, `return` and function heads run wherever they stand; the increment needs an open loop, which `forStart` provides -/
theorem bash_tstmtOps : TStmtOps conv Open id (· + 1) id (fun _ => True) (fun _ => True) where
  expr := bash_texprOps
  sliceAssignment _ _ _ _ _ _ := fun _ h => ⟨_, _, rfl, h⟩
  funcStart k n ps _ := ka_funcStart n ps k
  funcEnd _ := fun _ h => ⟨_, _, rfl, h⟩
  ret k vs _ := ka_ret vs k
  ifStart k _ := ka_addLine _ k
  ifEnd k := ka_addLine _ k
  elseIfStart k _ := ka_addLine _ k
  elseIfEnd _ := keeps_pure _
  elseStart k := ka_addLine _ k
  elseEnd _ := keeps_pure _
  forStart _ := fun _ h => ⟨_, _, rfl, congrArg (· + 1) h⟩
  forIncrementStart _ := fun s h => (open_cons h).elim fun n ⟨rest, hf⟩ => ⟨_, _, forIncrementStart_run s n rest hf, h⟩
  forIncrementEnd _ := fun s h => (open_cons h).elim fun n ⟨rest, hf⟩ => ⟨_, _, forIncrementEnd_run s n rest hf, h⟩
  forCondition _ _ := ka_addLine _ _
  forEnd _ := fun s h => ⟨_, _, rfl, by
    obtain ⟨n, rest, hf⟩ := open_cons h
    rw [Open, hf] at h
    simpa [Open, hf] using h⟩
  brk k _ := ka_addLine _ k
  cont k _ := ka_addLine _ k
  print k _ := ka_addLine _ k
  panic _ _ := fun _ h => ⟨_, _, rfl, h⟩
  writeFile k _ _ _ := ka_addLine _ k
  nop k := ka_addLine _ k
  loopOK_pushFor _ := trivial
  loopOK_pushIf _ _ := trivial
  funcOK_pushFunc _ := trivial
  funcOK_pushIf _ _ := trivial
  funcOK_pushFor _ _ := trivial

theorem bash_laxOps : LaxOps conv Open id (fun _ => True) (fun _ => True) :=
  ⟨fun k n ps => ka_funcStart n ps k, fun _ => trivial, fun _ => trivial⟩

theorem evalStmt_runs (st : Stmt) (ht : st.typed = true) : Runs (evalStmt conv st) :=
  KeepsAll.runs fun k => (stmtWalk_typed bash_tstmtOps).1 st ht {} k (.inl bash_laxOps)

theorem evalInit_runs (init : Option Stmt) (ht : typedOpt init = true) : Runs (evalInit conv init) :=
  KeepsAll.runs fun k => (stmtWalk_typed bash_tstmtOps).2.2.1 init ht {} k (.inl bash_laxOps)

theorem evalIncr_runs (incr : Option Stmt) (ht : typedOpt incr = true) :
    ∀ (s : St) (n : Nat) (rest : List Nat), s.fors = n :: rest → ∃ a s', evalIncr conv incr s = .ok (a, s') :=
  fun s _ rest hf => let ⟨a, s', e, _⟩ := (stmtWalk_typed bash_tstmtOps).2.1 incr ht {} rest.length (.inl bash_laxOps) s (by rw [Open, hf]; rfl); ⟨a, s', e⟩

theorem evalElse_runs (els : List Stmt) (ht : typedStmts els = true) : Runs (evalElse conv els) :=
  KeepsAll.runs fun k => (stmtWalk_typed bash_tstmtOps).2.2.2.1 els ht {} k (.inl bash_laxOps)

theorem evalBlock_runs (body : List Stmt) (ht : typedStmts body = true) : Runs (evalBlock conv body) :=
  KeepsAll.runs fun k => (stmtWalk_typed bash_tstmtOps).2.2.2.2.2.2 body ht {} k (.inl bash_laxOps)

theorem evalElifs_runs (elifs : List (Expr × List Stmt)) (conds : List String) (ht : typedElifs elifs = true) :
    Runs (evalElifs conv elifs conds) :=
  KeepsAll.runs fun k => (stmtWalk_typed bash_tstmtOps).2.2.2.2.2.1 elifs conds ht {} k (.inl bash_laxOps)

theorem evalStmts_runs (body : List Stmt) (ht : typedStmts body = true) : Runs (evalStmts conv body) :=
  KeepsAll.runs fun k => (stmtWalk_typed bash_tstmtOps).2.2.2.2.1 body ht {} k (.inl bash_laxOps)

theorem compile_total (p : Program) (ht : typedProgram p = true) : ∃ ls, compile p = .ok ls := by
  have h1 : Runs (evalProgram conv p) := KeepsAll.runs fun k => by
    unfold evalProgram
    exact Triple.bind (q := fun _ => Open k) (fun _ h => ⟨_, _, rfl, h⟩) (fun _ => Triple.bind
      ((stmtWalk_typed bash_tstmtOps).2.2.2.2.1 p ht {} k (.inl bash_laxOps)) (fun _ => keeps_pure _))
  obtain ⟨u, s, hs⟩ := h1 {}
  exact ⟨dumpLines s, by unfold compile; rw [hs]⟩

theorem emitBash_total (p : Program) (ht : typedProgram p = true) : ∃ script, emitBash p = .ok script :=
  let ⟨ls, h⟩ := compile_total p ht; ⟨renderScript ls, by unfold emitBash; rw [h]⟩

theorem typedWalk_wf :
    (∀ st : Stmt, st.typed = true → st.wf = true) ∧ (∀ o, typedOpt o = true → wfOpt o = true) ∧
    (∀ elifs, typedElifs elifs = true → wfElifs elifs = true) ∧ ∀ body, typedStmts body = true → wfStmts body = true := by
  apply Stmt.typed.mutual_induct
  · intro vars vals h; simpa [Stmt.wf] using (typed_vals h).2.2
  · intro vars vals h; simpa [Stmt.wf] using (typed_vals h).2.2
  · intro vars call h; simpa [Stmt.wf] using (typed_callVals h).2.2
  · intro vars call h; simpa [Stmt.wf] using (typed_callVals h).2.2
  · intro v index value _; rfl
  · intro name pub rets params body ihb h; simpa [Stmt.wf] using ihb h
  · intro vals _; rfl
  · intro cond body elifs els ihb ihe ihl h
    obtain ⟨_, hb, he, hl⟩ := typed_ifS h
    simp [Stmt.wf, ihb hb, ihe he, ihl hl]
  · intro init cond incr body ihi ihn ihb h
    obtain ⟨hi, _, hn, hb⟩ := typed_forS h
    simp [Stmt.wf, ihi hi, ihn hn, ihb hb]
  · intro _; rfl
  · intro _; rfl
  · intro es _; rfl
  · intro e _; rfl
  · intro path data append _; rfl
  · intro e hw h; simpa [Stmt.wf] using (typed_expr hw h).2
  · intro _; rfl
  · intro st rest ihs ihr h; simp [wfStmts, ihs (typedStmts_cons h).1, ihr (typedStmts_cons h).2]
  · intro _; rfl
  · intro e body rest ihb ihr h; simp [wfElifs, ihb (typedElifs_cons h).2.1, ihr (typedElifs_cons h).2.2]
  · intro _; rfl
  · intro st ih h; simpa [wfOpt] using ih h

theorem typed_wf (st : Stmt) (h : st.typed = true) : st.wf = true := typedWalk_wf.1 st h

theorem typedStmts_wf (body : List Stmt) (h : typedStmts body = true) : wfStmts body = true := typedWalk_wf.2.2.2 body h

theorem typedOpt_wf (o : Option Stmt) (h : typedOpt o = true) : wfOpt o = true := typedWalk_wf.2.1 o h

theorem typedElifs_wf (elifs : List (Expr × List Stmt)) (h : typedElifs elifs = true) : wfElifs elifs = true :=
  typedWalk_wf.2.2.1 elifs h

end Tsh.Bash
