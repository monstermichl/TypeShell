/-
  Whole programs with functions: a function definition at top level extends the table (what the table says about the new body
  is `body_sim`); the other top-level statements run against the table built so far.  At the end, the definitions of the helper
  routines at the head of the script as commands (`helperCmds`).
-/
import TshVerif.Lemmas.Sem2Func
namespace Tsh.Sem2
open Tsh Tsh.Tr Tsh.Bash Tsh.Sem Tsh.Sem2.Src
open Tsh.Sem.Src (Val Env)

/-- what the top-level pieces translated so far leave: the table, and the converter past the numbers and flags the table uses -/
structure TopOK (T : List FEntry) (s : St) : Prop where
  table : TableOK T
  stat : TStat (tnames T) T
  nodup : (tnames T).Nodup
  top : s.funcs = []
  bounds : ∀ e ∈ T, e.j ≤ s.funcCounter ∧ e.b ≤ s.forCounter

theorem TopOK.step {T : List FEntry} {s s1 : St} (ok : TopOK T s) {new : List Line} {n mm fc : Nat} {rq : Req}
    (e : s1 = reqSt (adv3 s new n mm fc) rq) : TopOK T s1 :=
  ⟨ok.table, ok.stat, ok.nodup, e ▸ ok.top, fun e' he' => e ▸
    ⟨Nat.le_trans (ok.bounds e' he').1 (Nat.le_add_right _ _), Nat.le_trans (ok.bounds e' he').2 (Nat.le_add_right _ _)⟩⟩

theorem funcdef_compile {T : List FEntry} {s s' : St} (ok : TopOK T s)
    {name : String} {pub : Bool} {rets : List ValueType} {params : List Var} {body : List Stmt}
    (hgood : (params.all (fun p => goodName2 p.name)) = true) (hfr : fragSs (tnames T) body = true)
    (h : evalStmt conv (.funcDef name pub rets params body) s = .ok ((), s')) :
    ∃ bodyCmds n mm rq, s' = reqSt (adv3 s (flat (.fn name bodyCmds)).reverse n mm 1) rq ∧
      BodySim ⟨{ name := name, params := params, rets := rets, body := body }, bodyCmds, s.funcCounter + 1, s.forCounter + mm⟩ T ∧
      SL (Touched (s.funcCounter + 1) (s.forCounter + mm)) (Pref (s.funcCounter + 1)) (tnames T) (flats bodyCmds) := by
  unfold evalStmt at h
  obtain ⟨_, s1, h1, h⟩ := EM.bind_ok h
  obtain ⟨_, s2, h2, h3⟩ := EM.bind_ok h
  rw [C02.funcStart_run] at h1
  cases h1
  have hctx : CtxOK ⟨true, s.funcCounter + 1⟩ T s.forCounter :=
    ⟨fun _ e he => by have := (ok.bounds e he).1; show e.j < s.funcCounter + 1; omega, fun e he => (ok.bounds e he).2⟩
  obtain ⟨cmds, n, mm, rb, e2, hlines, hsim⟩ := block_semF ok.table hctx body hfr _ s2 (by rfl) (by exact Nat.le_refl _) h2
  have e3 := funcEnd_ok h3
  obtain ⟨hbs, hsl⟩ := body_sim (fd := { name := name, params := params, rets := rets, body := body }) (B := s.forCounter) ok.stat
    (fun e he => ⟨by have := (ok.bounds e he).1; omega, by have := (ok.bounds e he).2; omega⟩) hgood (show LinesOK _ (s.forCounter + mm) _ _ from hlines) hsim
  refine ⟨_, n, mm, rb, ?_, hbs, hsl⟩
  rw [e3, e2, varName_fn _ rfl]
  simp [adv3, reqSt, adv2, flat, flats_append, flats_simples, ok.top]

/-- `Inv` outside functions with the table known exactly: `Inv`'s `T <:+ Tr` does not survive a definition (`e :: T` is no suffix
    of `e :: Tr`) -/
structure TopInv (T : List FEntry) (c : SCfg) (m : Cfg) : Prop where
  agree : AgreeF ⟨false, 0⟩ c m
  sfuns : c.funs = srcTable T
  mfuns : m.funs = shTable T

theorem agreeF_top {k k' : Nat} {c : SCfg} {m : Cfg} (h : AgreeF ⟨false, k⟩ c m) : AgreeF ⟨false, k'⟩ c m :=
  ⟨h.inFn, h.out, h.glob, (fun hin => by cases hin), h.hp⟩

/-- output and way of ending only: the table grows under a definition, so no `Kept ctx T` can be handed from piece to piece -/
def ProgSim (T : List FEntry) (p : List Stmt) (cmds : List Cmd) : Prop :=
  ∀ fuel c o c', execSs fuel p c = some (o, c') → ∀ m, TopInv T c m →
    ∃ m', ExecCmds cmds m (outOf o) m' ∧ c'.out = m'.out

theorem fragP_cons {ds : List String} {st : Stmt} {rest : List Stmt} (h : fragP ds (st :: rest) = true) :
    (∃ name pub rets params body, st = .funcDef name pub rets params body ∧ ds.contains name = false ∧
      (params.all (fun x => goodName2 x.name)) = true ∧ fragSs ds body = true ∧ fragP (name :: ds) rest = true) ∨
    (fragS ds st = true ∧ fragP ds rest = true) := by
  cases st
  case funcDef name pub rets params body =>
    simp only [fragP, Bool.and_eq_true, Bool.not_eq_true'] at h
    exact Or.inl ⟨name, pub, rets, params, body, rfl, h.1.1.1, h.1.1.2, h.1.2, h.2⟩
  all_goals
    simp only [fragP, Bool.and_eq_true] at h
    exact Or.inr h

/-- the claim for a top-level piece `p`, whatever table the pieces before it have built -/
def ProgSemF (p : List Stmt) : Prop :=
  ∀ (T : List FEntry) (s s' : St), fragP (tnames T) p = true → TopOK T s → evalStmts conv p s = .ok ((), s') →
    ∃ cmds n mm fc rq, s' = reqSt (adv3 s (flats cmds).reverse n mm fc) rq ∧ ProgSim T p cmds

theorem prog_nil : ProgSemF [] := by
  intro T s s' _ _ h
  cases (EM.pure_ok (a := ()) h).2
  refine ⟨[], 0, 0, 0, Req.none, by rw [reqSt_none]; rfl, ?_⟩
  intro fuel c o c' hs m hi
  cases fuel <;> cases hs
  exact ⟨m, .nil, hi.agree.out⟩

theorem prog_funcDef {name : String} {pub : Bool} {rets : List ValueType} {params : List Var} {body rest : List Stmt}
    (ih : ProgSemF rest) {T : List FEntry} {s s1 s' : St} (hnew : (tnames T).contains name = false)
    (hgood : (params.all (fun x => goodName2 x.name)) = true) (hfb : fragSs (tnames T) body = true)
    (hfrest : fragP (name :: tnames T) rest = true) (ok : TopOK T s)
    (h1 : evalStmt conv (.funcDef name pub rets params body) s = .ok ((), s1)) (h2 : evalStmts conv rest s1 = .ok ((), s')) :
    ∃ cmds n mm fc rq, s' = reqSt (adv3 s (flats cmds).reverse n mm fc) rq ∧ ProgSim T (.funcDef name pub rets params body :: rest) cmds := by
  obtain ⟨bodyCmds, n, mm, r1, e1, hbs, hsl⟩ := funcdef_compile ok hgood hfb h1
  let e : FEntry := ⟨{ name := name, params := params, rets := rets, body := body }, bodyCmds, s.funcCounter + 1, s.forCounter + mm⟩
  have hT' : TableOK (e :: T) :=
    ⟨hbs, ok.table, fun e' he' => ⟨by have := (ok.bounds e' he').1; show e'.j < s.funcCounter + 1; omega,
      by have := (ok.bounds e' he').2; show e'.b ≤ s.forCounter + mm; omega⟩⟩
  have hnames : tnames (e :: T) = name :: tnames T := rfl
  have hst' : TStat (tnames (e :: T)) (e :: T) :=
    TStat.mono (D := tnames T) (List.forall_mem_cons.2 ⟨hsl, ok.stat⟩) fun _ hx => List.mem_cons_of_mem _ hx
  have hnd' : (tnames (e :: T)).Nodup := by
    rw [hnames, List.nodup_cons]
    refine ⟨?_, ok.nodup⟩
    intro hmem
    have : (tnames T).contains name = true := by simpa using hmem
    rw [hnew] at this; cases this
  have ok1 := ok.step e1
  obtain ⟨cmds, n2, mm2, fc2, r2, e2, sim2⟩ := ih (e :: T) s1 s' (by rw [hnames]; exact hfrest)
    ⟨hT', hst', hnd', ok1.top, List.forall_mem_cons.mpr ⟨e1 ▸ ⟨Nat.le_refl _, Nat.le_refl _⟩, ok1.bounds⟩⟩ h2
  refine ⟨.fn name bodyCmds :: cmds, n + n2, mm + mm2, 1 + fc2, r1.or r2, ?_, ?_⟩
  · rw [e2, e1, adv3_comp]
    simp [flats]
  · intro fuel c o c' hs m hi
    have hin : c.inFn = false := hi.agree.inFn
    rcases execSs_cons_cases hs with ⟨f1, hs1, hne⟩ | ⟨f1, f2, c1, hs1, hs2⟩
    · exact absurd (src_funcDef hin hs1).1 hne
    · obtain ⟨_, rfl⟩ := src_funcDef hin hs1
      have hi' : TopInv (e :: T) { c with funs := { name := name, params := params, rets := rets, body := body } :: c.funs }
          { m with funs := (name, bodyCmds) :: m.funs } :=
        ⟨⟨hi.agree.inFn, hi.agree.out, hi.agree.glob, (fun hin => by cases hin), ⟨hi.agree.hp.dvc, hi.agree.hp.heap, hi.agree.hp.fresh⟩⟩,
         by show _ :: c.funs = _; rw [hi.sfuns]; rfl, by show _ :: m.funs = _; rw [hi.mfuns]; rfl⟩
      obtain ⟨m', ex, hout⟩ := sim2 f2 _ o c' hs2 _ hi'
      exact ⟨m', .cons .fnDef ex, hout⟩

theorem prog_stmt {st : Stmt} {rest : List Stmt} (ih : ProgSemF rest) {T : List FEntry} {s s1 s' : St}
    (hfs : fragS (tnames T) st = true) (hfrest : fragP (tnames T) rest = true) (ok : TopOK T s)
    (h1 : evalStmt conv st s = .ok ((), s1)) (h2 : evalStmts conv rest s1 = .ok ((), s')) :
    ∃ cmds n mm fc rq, s' = reqSt (adv3 s (flats cmds).reverse n mm fc) rq ∧ ProgSim T (st :: rest) cmds := by
  have hin : inFunction s = false := by simp [inFunction, ok.top]
  have hctx : CtxOK (ctxOf s) T s.forCounter :=
    ⟨fun hi => by simp [ctxOf, hin] at hi, fun e he => (ok.bounds e he).2⟩
  obtain ⟨cmds1, n, mm, r1, e1, _, sim1⟩ := stmt_semF ok.table hctx st hfs s s1 rfl (Nat.le_refl _) h1
  obtain ⟨cmds, n2, mm2, fc2, r2, e2, sim2⟩ := ih T s1 s' hfrest (ok.step (fc := 0) e1) h2
  refine ⟨cmds1 ++ cmds, n + n2, mm + mm2, 0 + fc2, r1.or r2, ?_, ?_⟩
  · rw [e2, e1, flats_append, List.reverse_append]
    exact adv3_comp s _ _ n mm 0 n2 mm2 fc2 r1 r2
  · intro fuel c o c' hs m hi
    have hctxeq : ctxOf s = ⟨false, s.funcCounter⟩ := by simp [ctxOf, hin]
    have hinv : Inv (ctxOf s) T c m := by
      rw [hctxeq]
      exact ⟨agreeF_top hi.agree, ⟨T, List.suffix_refl _, ok.nodup, hi.sfuns, hi.mfuns⟩⟩
    rcases execSs_cons_cases hs with ⟨f1, hs1, hne⟩ | ⟨f1, f2, c1, hs1, hs2⟩
    · obtain ⟨m', ex, hout, _⟩ := Ends.elim (sim1 f1 c o c' hs1 m hinv)
      exact ⟨m', execCmds_stop_append cmds ex (fun e => hne (outOf_normal.mp e)), hout⟩
    · obtain ⟨m1, ex1, hk⟩ := Ends.normal_elim (sim1 f1 c .normal c1 hs1 m hinv)
      have hsame := funs_execS f1 (tnames T) (Or.inr (fragS_nd _ _ hfs)) hs1 nofun
      have hi1 : TopInv T c1 m1 := by
        refine ⟨?_, by rw [hsame.1]; exact hi.sfuns, by rw [hk.ctl.2.2]; exact hi.mfuns⟩
        have := hk.inv.agree
        rw [hctxeq] at this
        exact agreeF_top this
      obtain ⟨m', ex2, hout⟩ := sim2 f2 c1 o c' hs2 m1 hi1
      exact ⟨m', execCmds_append ex1 ex2, hout⟩

theorem prog_semF : ∀ (p : List Stmt), ProgSemF p
  | [] => prog_nil
  | st :: rest => by
    intro T s s' hf ok h
    obtain ⟨_, s1, h1, h2⟩ := EM.bind_ok h
    rcases fragP_cons hf with ⟨name, pub, rets, params, body, rfl, hnew, hgood, hfb, hfrest⟩ | ⟨hfs, hfrest⟩
    · exact prog_funcDef (prog_semF rest) hnew hgood hfb hfrest ok h1 h2
    · exact prog_stmt (prog_semF rest) hfs hfrest ok h1 h2

/-- the block structure of `helperLines` -/
def helperCmds (s : St) : List Cmd :=
  (if s.sahReq then [Cmd.simple (.comment "slice assignment"), .fn "_sah" (sahBodyLines.map Cmd.simple)] else []) ++
  (if s.schReq then [Cmd.simple (.comment "slice copy"), .fn "_sch" (schBodyLines.map Cmd.simple)] else []) ++
  (if s.sshReq then [Cmd.simple (.comment "substring"), .fn "_ssh" (sshBodyLines.map Cmd.simple)] else [])

/-- the functions they define, latest first -/
def helperFuns (s : St) : List (String × List Cmd) :=
  (if s.sshReq then [("_ssh", sshBodyLines.map Cmd.simple)] else []) ++
  (if s.schReq then [("_sch", schBodyLines.map Cmd.simple)] else []) ++
  (if s.sahReq then [("_sah", sahBodyLines.map Cmd.simple)] else [])

theorem flats_optFn (b : Bool) (t name : String) (body : List Line) :
    flats (if b then [Cmd.simple (.comment t), .fn name (body.map Cmd.simple)] else []) =
      if b then .comment t :: .funcStart name :: (body ++ [.funcEnd]) else [] := by
  cases b
  · rfl
  · simp only [if_true, flats, flat, flats_simples, List.append_nil, List.nil_append, List.cons_append]

theorem exec_optFn (b : Bool) (t name : String) (body : List Cmd) (c : Cfg) :
    ExecCmds (if b then [Cmd.simple (.comment t), .fn name body] else []) c .normal
      { c with funs := (if b then [(name, body)] else []) ++ c.funs } := by
  cases b
  · exact ExecCmds.nil
  · exact ExecCmds.cons (ExecCmd.simple rfl rfl) (ExecCmds.cons ExecCmd.fnDef ExecCmds.nil)

theorem flats_helperCmds (s : St) : flats (helperCmds s) = helperLines s := by
  unfold helperCmds helperLines
  rw [flats_append, flats_append, flats_optFn, flats_optFn, flats_optFn]

theorem exec_helperCmds (s : St) (c : Cfg) : ExecCmds (helperCmds s) c .normal { c with funs := helperFuns s ++ c.funs } := by
  unfold helperCmds helperFuns
  have h := execCmds_append (execCmds_append (exec_optFn s.sahReq "slice assignment" "_sah" (sahBodyLines.map Cmd.simple) c)
    (exec_optFn s.schReq "slice copy" "_sch" (schBodyLines.map Cmd.simple) _)) (exec_optFn s.sshReq "substring" "_ssh" (sshBodyLines.map Cmd.simple) _)
  simp only [List.append_assoc] at h ⊢
  exact h

end Tsh.Sem2
