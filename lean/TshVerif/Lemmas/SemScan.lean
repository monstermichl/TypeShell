/-
  Facts about the double-quote scanner of `Sem/Bash`: escaped literals read back, `${name}` reads the
  variable, texts compose.
-/
import TshVerif.Sem.Src
import TshVerif.Lemmas.Names
namespace Tsh.Sem
open Tsh Tsh.Bash Tsh.Names

theorem scan_plain (ρ : Store) (c : Char) (rest : List Char) (h : special c = false) :
    scan ρ none (c :: rest) = (scan ρ none rest).map (fun t => c :: t) := by
  simp [special] at h
  obtain ⟨⟨⟨h1, h2⟩, h3⟩, h4⟩ := h
  rw [scan.eq_def]
  simp [h1, h2, h3, h4]

theorem scan_escaped (ρ : Store) (c : Char) (rest : List Char) (h : special c = true) :
    scan ρ none ('\\' :: c :: rest) = (scan ρ none rest).map (fun t => c :: t) := by
  rw [scan.eq_def]
  simp [h]

/-- a text is *complete* with value `v`: wherever it stands, the scanner reads it as `v` and goes on -/
def Complete (ρ : Store) (t v : List Char) : Prop :=
  ∀ rest, scan ρ none (t ++ rest) = (scan ρ none rest).map (fun u => v ++ u)

theorem Complete.nil (ρ : Store) : Complete ρ [] [] := by
  intro rest
  simp only [List.nil_append]
  cases scan ρ none rest <;> simp

theorem Complete.append {ρ : Store} {a va b vb : List Char} (ha : Complete ρ a va) (hb : Complete ρ b vb) :
    Complete ρ (a ++ b) (va ++ vb) := by
  intro rest
  rw [List.append_assoc, ha, hb]
  cases scan ρ none rest <;> simp

theorem Complete.toExpand {ρ : Store} {t v : String} (h : Complete ρ t.toList v.toList) : expand ρ t = some v := by
  have := h []
  simp only [List.append_nil] at this
  have e0 : scan ρ none [] = some [] := by rw [scan.eq_def]
  rw [e0] at this
  simp [expand, this]

theorem complete_char (ρ : Store) (c : Char) (h : special c = false) : Complete ρ [c] [c] :=
  fun rest => scan_plain ρ c rest h

theorem complete_plain (ρ : Store) : ∀ (cs : List Char), (∀ c ∈ cs, special c = false) → Complete ρ cs cs
  | [], _ => Complete.nil ρ
  | c :: cs, h => (complete_char ρ c (h c (by simp))).append (complete_plain ρ cs fun d hd => h d (by simp [hd]))

theorem complete_escChar (ρ : Store) (c : Char) (h : (c != '$' && c != '`') = true) : Complete ρ (escChar c) [c] := by
  intro rest
  simp only [Bool.and_eq_true, bne_iff_ne, ne_eq] at h
  unfold escChar
  split
  · rename_i hs
    exact scan_escaped ρ c rest (by simp only [special, hs, Bool.true_or])
  · rename_i hs
    simp only [Bool.or_eq_true, beq_iff_eq, not_or] at hs
    exact scan_plain ρ c rest (by simp [special, hs, h])

theorem complete_literal (ρ : Store) : ∀ (lit : List Char), (∀ c ∈ lit, (c != '$' && c != '`') = true) →
    Complete ρ (lit.flatMap escChar) lit
  | [], _ => Complete.nil ρ
  | c :: cs, h => (complete_escChar ρ c (h c (by simp))).append (complete_literal ρ cs fun d hd => h d (by simp [hd]))

theorem complete_escaped (ρ : Store) (lit : String) (h : ∀ c ∈ lit.toList, (c != '$' && c != '`') = true) :
    Complete ρ (stringToString lit).toList lit.toList := by
  rw [stringToString, String.toList_ofList]
  exact complete_literal ρ _ h

theorem scan_name (ρ : Store) : ∀ (n acc rest : List Char), (∀ c ∈ n, c ≠ '}') →
    scan ρ (some acc) (n ++ '}' :: rest) =
      if validName (acc ++ n) then (scan ρ none rest).map (fun t => (ρ (String.ofList (acc ++ n))).toList ++ t) else none := by
  intro n
  induction n with
  | nil => intro acc rest _; rw [scan.eq_def]; simp
  | cons c cs ih =>
    intro acc rest h
    have hc : c ≠ '}' := h c (by simp)
    rw [List.cons_append, scan.eq_def]
    simp only [beq_iff_eq, hc, if_false]
    rw [ih (acc ++ [c]) rest (fun d hd => h d (by simp [hd]))]
    simp

/-- a valid name consists of name characters: letters, digits, `_` -/
theorem validName_chars {n : List Char} (h : validName n = true) : ∀ c ∈ n, nameChar c = true := by
  cases n with
  | nil => exact nofun
  | cons d ds => exact List.all_eq_true.mp (Bool.and_eq_true_iff.mp h).2

theorem nameChar_ne_brace (c : Char) (h : nameChar c = true) : c ≠ '}' := by
  intro e; subst e; simp [nameChar, Char.isAlphanum, Char.isAlpha, Char.isUpper, Char.isLower, Char.isDigit] at h

theorem complete_var (ρ : Store) (name : String) (h : validName name.toList = true) :
    Complete ρ ("${" ++ name ++ "}").toList (ρ name).toList := by
  intro rest
  have e : ("${" ++ name ++ "}").toList = '$' :: '{' :: (name.toList ++ ['}']) := by
    simp [String.toList_append]
  rw [e]
  have : ('$' :: '{' :: (name.toList ++ ['}'])) ++ rest = '$' :: '{' :: (name.toList ++ '}' :: rest) := by simp
  rw [this]
  have s1 : scan ρ none ('$' :: '{' :: (name.toList ++ '}' :: rest)) = scan ρ (some []) (name.toList ++ '}' :: rest) := by
    rw [scan.eq_def]; simp
  rw [s1, scan_name ρ name.toList [] rest fun c hc => nameChar_ne_brace c (validName_chars h c hc)]
  simp [h, String.ofList_toList]

theorem digit_not_special (c : Char) (h : c.isDigit = true) : special c = false := by
  simp only [Char.isDigit, Bool.and_eq_true, decide_eq_true_eq] at h
  simp only [special, Bool.or_eq_false_iff, beq_eq_false_iff_ne, ne_eq]
  refine ⟨⟨⟨?_, ?_⟩, ?_⟩, ?_⟩ <;> (intro e; subst e; revert h; decide)

theorem int_toString_plain (n : Int) : ∀ c ∈ (toString n).toList, special c = false := fun c hc =>
  (int_repr_chars n c hc).elim (digit_not_special c) fun e => e ▸ rfl

theorem complete_int (ρ : Store) (n : Int) : Complete ρ (toString n).toList (toString n).toList :=
  complete_plain ρ _ (int_toString_plain n)

theorem complete_bool (ρ : Store) (b : Bool) : Complete ρ (Tr.boolStr b).toList (Tr.boolStr b).toList := by
  apply complete_plain
  intro c hc
  cases b <;> simp [Tr.boolStr] at hc <;> subst hc <;> decide

theorem asInt_toString (n : Int) : asInt (toString n) = some n := by
  show (Int.repr n).toInt? = some n
  simp

theorem boolStr_eq (b : Bool) : Tr.boolStr b = toString (if b then (1 : Int) else 0) := by
  cases b <;> decide

theorem asInt_boolStr (b : Bool) : asInt (Tr.boolStr b) = some (if b then 1 else 0) := by
  rw [boolStr_eq, asInt_toString]

end Tsh.Sem
