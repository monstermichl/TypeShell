/-
  The lines in front of the program - the start code and the jump over the echo routine - lead, in the line-level semantics
  `Sem/CmdLines`, from the first line of the script and the EMPTY store to the first line of the program with the store
  that holds `_e = 0` and nothing else (`pre_leads`).
-/
import TshVerif.Lemmas.SemBLinesSound
import TshVerif.Lemmas.SemBExpr
namespace Tsh.SemB
open Tsh Tsh.Batch Tsh.Sem

/-- the first four lines of every script -/
def baseStart : List BLine := [.raw "@echo off", .raw "setlocal EnableDelayedExpansion", .raw "setlocal", .set "_e" "0"]

/-- the echo routine with the jump over it -/
def echoHelper : List BLine := helper "echo" "_ech" [.raw "if \"!_fa0!\" neq \"\" (echo !_fa0!) else echo."]

theorem lfLine_nop {l : BLine} (h : lfLine l = true) : ∃ t, l = .raw t ∧ nopRaw t = true := by
  simp only [lfLine, Bool.or_eq_true, beq_iff_eq] at h
  rcases h with (rfl | rfl) | rfl <;> exact ⟨_, rfl, by simp only [nopRaw, beq_self_eq_true, Bool.or_true, Bool.true_or]⟩

theorem leads_nops (whole : List BLine) : ∀ (xs : List BLine), (∀ l ∈ xs, lfLine l = true) → ∀ (R : List BLine) (c : Cfg),
    Leads whole (xs ++ R) c R c
  | [], _, R, c => by simpa using Leads.refl
  | x :: xs, h, R, c => by
    obtain ⟨t, rfl, hn⟩ := lfLine_nop (h x (by simp))
    have ih := leads_nops whole xs (fun l hl => h l (by simp [hl])) R c
    exact fun o c' r => .nop hn (ih o c' r)

theorem labelsOf_nops {xs : List BLine} (h : ∀ l ∈ xs, lfLine l = true) : labelsOf xs = [] := by
  rw [labelsOf_eq, List.filterMap_eq_nil_iff]
  intro l hl
  obtain ⟨t, rfl, _⟩ := lfLine_nop (h l hl)
  rfl

theorem ech_ne_eo : (("_ech" : String) == "_eo_" ++ "_ech") = false := by decide

/-- the remark lines around a helper routine begin with `:: ` whatever the routine's name -/
theorem nopRaw_remark (x y : String) : nopRaw (":: global " ++ x ++ y) = true := by
  have h : [':', ':', ' '] <+: (":: global " : String).toList := by decide
  have h' := (h.trans (List.prefix_append _ x.toList)).trans (List.prefix_append _ y.toList)
  simp only [nopRaw, String.toList_append, List.isPrefixOf_iff_prefix.mpr h', Bool.or_true]

theorem pre_leads (whole extra R : List BLine) (hex : ∀ l ∈ extra, lfLine l = true) (ech : Bool)
    (hw : whole = baseStart ++ (extra ++ ((if ech then echoHelper else []) ++ R))) :
    Leads whole (baseStart ++ (extra ++ ((if ech then echoHelper else []) ++ R))) ⟨fun _ => "", []⟩ R ⟨Store.set (fun _ => "") "_e" "0", []⟩ := by
  have hset : stepB (.set "_e" "0") ⟨fun _ => "", []⟩ = some (.normal, ⟨Store.set (fun _ => "") "_e" "0", []⟩) :=
    stepB_setC [] "_e" (completeD_bool _ false)
  have l1 : Leads whole (baseStart ++ (extra ++ ((if ech then echoHelper else []) ++ R))) ⟨fun _ => "", []⟩
      (extra ++ ((if ech then echoHelper else []) ++ R)) ⟨Store.set (fun _ => "") "_e" "0", []⟩ := by
    intro o c' r
    exact .nop (by simp only [nopRaw, beq_self_eq_true, Bool.true_or]) (.nop (by simp only [nopRaw, beq_self_eq_true, Bool.or_true, Bool.true_or])
      (.nop (by simp only [nopRaw, beq_self_eq_true, Bool.or_true, Bool.true_or]) (.simple hset r)))
  have l2 := leads_nops whole extra hex ((if ech then echoHelper else []) ++ R) ⟨Store.set (fun _ => "") "_e" "0", []⟩
  refine Leads.trans l1 (Leads.trans l2 ?_)
  cases ech with
  | false => simpa using Leads.refl
  | true =>
    simp only [if_true]
    have e : echoHelper ++ R = .raw (":: global " ++ "echo" ++ " helper begin") :: .goto ("_eo_" ++ "_ech") :: .label "_ech" ::
        .raw "if \"!_fa0!\" neq \"\" (echo !_fa0!) else echo." :: .raw "exit /B" :: .label ("_eo_" ++ "_ech") ::
        .raw (":: global " ++ "echo" ++ " helper end") :: R := rfl
    have hal : afterLabel ("_eo_" ++ "_ech") whole = some (.raw (":: global " ++ "echo" ++ " helper end") :: R) := by
      rw [hw]
      rw [show baseStart ++ (extra ++ ((if true = true then echoHelper else []) ++ R)) = (baseStart ++ extra) ++ (echoHelper ++ R) by simp]
      rw [afterLabel_append _ (baseStart ++ extra) _ (by rw [labelsOf_append, labelsOf_nops hex]; decide)]
      rw [e]
      simp [afterLabel]
    intro o c' r
    rw [e]
    exact .nop (nopRaw_remark _ _) (.gotoL (by decide) hal (.nop (nopRaw_remark _ _) r))

end Tsh.SemB
