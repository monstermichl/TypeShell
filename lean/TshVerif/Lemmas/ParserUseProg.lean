/-
  Every variable used is a visible one, in files: the context after the imports knows only variables defined by the imported
  statements that are kept.
-/
import TshVerif.Lemmas.ParserUseStmt
import TshVerif.Lemmas.ParserFiles
namespace Tsh.Parser
open Tsh Tsh.Tr Tsh.LexTables

theorem declaredAll_sub (Γ : List Var) (ss : List Stmt) : ∀ x ∈ Γ, x ∈ PT.declaredAll Γ ss := by
  induction ss generalizing Γ with
  | nil => intro x hx; exact hx
  | cons s rest ih =>
    intro x hx
    simp only [PT.declaredAll, List.foldl_cons]
    exact ih _ x (declared_sub Γ s x hx)

theorem ownStatements_use {depth : Nat} {fs : FileSys} {path : String} {importing : List String} {fuel : Nat} {s0 s s' : PSt}
    {ctx : Ctx} {imported own : List Stmt} (hi : evalImports depth fs path importing fuel {} s0 = .ok (ctx, imported) s)
    (hb : evalBlockContent fuel [TT_EOF] (fun _ _ => true) { ctx with imports := assocSet ctx.imports s.pfx s.pfx } .program s = .ok own s') :
    PT.useSs (PT.declaredAll [] imported) own = true :=
  ownStatements_pass useWalk (e0 := []) (fun _ _ he => nomatch he) (fun _ _ _ h => h) (fun _ _ _ _ h he => h.enters he) trivial hi hb

theorem evalProgram_use (depth : Nat) (fs : FileSys) (path : String) (importing : List String) (fuel : Nat) (s0 s' : PSt)
    (body : List Stmt) (h : evalProgram depth fs path importing fuel s0 = .ok body s') :
    ∃ imported own, body = imported ++ own ∧ PT.useSs (PT.declaredAll [] imported) own = true := by
  obtain ⟨ctx, imported, s, own, hi, hb, rfl⟩ := evalProgram_of_ok h
  exact ⟨imported, own, rfl, ownStatements_use hi hb⟩

end Tsh.Parser
