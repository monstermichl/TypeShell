/-
  What the operations of the Batch converter do at top level (`s.funcs = []`), in the order of `Model/ConvBatch`: the state an
  operation leaves, as an equation, or as `Adv` where the start code or a request flag may change as well.  The semantic files
  (`Lemmas/SemB*`) start from here.
-/
import TshVerif.Sem.CmdTree
import TshVerif.Lemmas.BatchOps
import TshVerif.Lemmas.Names
import TshVerif.Lemmas.Walk
namespace Tsh.SemB
open Tsh Tsh.Tr Tsh.Batch Tsh.Sem

/-- new global lines (latest first) and `n` new helper variables -/
def advB (s : St) (new : List BLine) (n : Nat) : St :=
  { s with globalCode := new ++ s.globalCode, varCounter := s.varCounter + n }

/-- the three lines that define `LF` -/
def lfLine (l : BLine) : Bool := l == .raw "(set LF=^" || l == .raw "" || l == .raw ")"

/-- outside the code buffers a step of the scalar fragment requests no routine but the echo routine, and the start code grows only
    by the definition of `LF` -/
def EnvExt (s s' : St) : Prop :=
  (s'.fwhReq = s.fwhReq ∧ s'.appCallReq = s.appCallReq ∧ s'.readReq = s.readReq ∧ s'.schReq = s.schReq ∧ s'.sahReq = s.sahReq ∧
    s'.slsReq = s.slsReq ∧ s'.slgReq = s.slgReq ∧ s'.stshReq = s.stshReq ∧ s'.stlhReq = s.stlhReq) ∧
  ∃ extra, s'.startCode = extra ++ s.startCode ∧ ∀ l ∈ extra, lfLine l = true

theorem EnvExt.refl (s : St) : EnvExt s s := ⟨⟨rfl, rfl, rfl, rfl, rfl, rfl, rfl, rfl, rfl⟩, [], rfl, by simp⟩

theorem EnvExt.trans {a b c : St} (h1 : EnvExt a b) (h2 : EnvExt b c) : EnvExt a c := by
  obtain ⟨⟨a1, a2, a3, a4, a5, a6, a7, a8, a9⟩, e1, s1, p1⟩ := h1
  obtain ⟨⟨b1, b2, b3, b4, b5, b6, b7, b8, b9⟩, e2, s2, p2⟩ := h2
  refine ⟨⟨b1.trans a1, b2.trans a2, b3.trans a3, b4.trans a4, b5.trans a5, b6.trans a6, b7.trans a7, b8.trans a8, b9.trans a9⟩,
    e2 ++ e1, by rw [s2, s1, List.append_assoc], ?_⟩
  intro l hl
  rcases List.mem_append.mp hl with h | h
  · exact p2 l h
  · exact p1 l h

/-- `new` plain lines and `n` helper variables; function table, function code, construct stacks and label counters stay.  A relation
    and not `s' = advB s new n` because a string literal may request the `LF` definition (`env`). -/
structure Adv (s s' : St) (new : List BLine) (n : Nat) : Prop where
  code : s'.globalCode = new ++ s.globalCode
  cnt : s'.varCounter = s.varCounter + n
  funcs : s'.funcs = s.funcs
  fcode : s'.functionsCode = s.functionsCode
  fors : s'.fors = s.fors
  ends : s'.endLabels = s.endLabels
  ifs : s'.ifs = s.ifs
  fcnt : s'.forCounter = s.forCounter
  icnt : s'.ifCounter = s.ifCounter
  plain : ∀ l ∈ new, plainB l = true
  env : EnvExt s s'

theorem Adv.refl (s : St) : Adv s s [] 0 := ⟨rfl, rfl, rfl, rfl, rfl, rfl, rfl, rfl, rfl, by simp, EnvExt.refl s⟩

theorem Adv.trans {s s1 s2 : St} {a b : List BLine} {m n : Nat} (h1 : Adv s s1 a m) (h2 : Adv s1 s2 b n) :
    Adv s s2 (b ++ a) (m + n) :=
  ⟨by rw [h2.code, h1.code, List.append_assoc], by rw [h2.cnt, h1.cnt, Nat.add_assoc], h2.funcs.trans h1.funcs,
   h2.fcode.trans h1.fcode, h2.fors.trans h1.fors, h2.ends.trans h1.ends, h2.ifs.trans h1.ifs, h2.fcnt.trans h1.fcnt,
   h2.icnt.trans h1.icnt,
   fun l hl => by rcases List.mem_append.mp hl with h | h; exact h2.plain l h; exact h1.plain l h,
   h1.env.trans h2.env⟩

theorem Adv.funcs_nil {s s' : St} {a : List BLine} {n : Nat} (h : Adv s s' a n) (h0 : s.funcs = []) : s'.funcs = [] :=
  h.funcs.trans h0

theorem Adv.ofAdvB (s : St) (new : List BLine) (n : Nat) (hp : new.all plainB = true) : Adv s (advB s new n) new n :=
  ⟨rfl, rfl, rfl, rfl, rfl, rfl, rfl, rfl, rfl, List.all_eq_true.mp hp, EnvExt.refl s⟩

theorem varName_topB (s : St) (h : s.funcs = []) (n : String) (g : Bool) : varName s n g = n := by
  simp [varName, inFunction, h]

theorem addLine_top (l : BLine) (s : St) (h : s.funcs = []) : addLine l s = .ok ((), { s with globalCode := l :: s.globalCode }) := by
  simp [addLine, h]

/-- the shape all operations share: take the next helper variable, write one line that mentions it, return its text -/
theorem fresh_lineB (mk : String → BLine) (s : St) (h0 : s.funcs = []) :
    (do let h ← nextHelperVar; let s ← get; addLine (mk (varName s h false)); varEvaluation h false : BM String) s =
      .ok ("!" ++ helperName s.varCounter ++ "!", advB s [mk (helperName s.varCounter)] 1) := by
  simp [bind, nextHelperVar, varEvaluation, Tr.get, addLine, pure, varEvalString, varName, inFunction, h0, advB, helperName,
    show ∀ x : String, toString x = x from fun _ => rfl]

theorem varAssignment_top {n v : String} {g : Bool} {s s' : St} (h0 : s.funcs = []) (h : varAssignment n v g s = .ok ((), s')) :
    Adv s s' [.set n v] 0 := by
  simp [varAssignment, bind, Tr.get, addLine, h0, varName, inFunction] at h
  rw [← h, ← h0]
  exact Adv.ofAdvB s [.set n v] 0 rfl

theorem addLf_adv {s s1 : St} {u : Unit} (h : addLf s = .ok (u, s1)) : Adv s s1 [] 0 := by
  unfold addLf at h
  simp only [bind, Tr.get] at h
  by_cases hl : s.lfSet = true
  · simp [hl, pure] at h
    rw [← h]; exact Adv.refl s
  · simp [hl, addStartLine, Tr.modify] at h
    rw [← h]; exact ⟨rfl, rfl, rfl, rfl, rfl, rfl, rfl, rfl, rfl, by simp,
      ⟨⟨rfl, rfl, rfl, rfl, rfl, rfl, rfl, rfl, rfl⟩, [.raw ")", .raw "", .raw "(set LF=^"], rfl, by simp [lfLine]⟩⟩

theorem stringToString_ok {lit t : String} {s s1 : St} (h : stringToString lit s = .ok (t, s1)) :
    t = escapeB lit ∧ Adv s s1 [] 0 := by
  unfold stringToString at h
  obtain ⟨u, s', h1, h2⟩ := EM.bind_ok h
  obtain ⟨e1, e2⟩ := EM.pure_ok h2
  subst e1; subst e2
  exact ⟨rfl, addLf_adv h1⟩

theorem callEcho_top {vals : List String} {s s' : St} (h0 : s.funcs = []) (h : callEcho vals s = .ok ((), s')) :
    Adv s s' [.call "_ech" [], .set "_fa0" (" ".intercalate vals)] 0 := by
  simp [callEcho, callFunc, setGlobalArgs, varAssignment, bind, Tr.get, Tr.modify, addLine, h0, varName, inFunction,
    funcArgVar, trimLeftColon, pure] at h
  rw [← h]
  exact ⟨rfl, rfl, h0.symm, rfl, rfl, rfl, rfl, rfl, rfl, List.all_eq_true.mp rfl, ⟨rfl, rfl, rfl, rfl, rfl, rfl, rfl, rfl, rfl⟩, [], rfl, by simp⟩

theorem ifStartOp_ok {c : String} {s s' : St} {u : Unit} (h0 : s.funcs = []) (h : ifStartOp c s = .ok (u, s')) :
    s' = { s with ifs := ifL s.ifCounter :: s.ifs, ifCounter := s.ifCounter + 1,
                  globalCode := .opn (ifStartLine c) :: s.globalCode } := by
  simp [ifStartOp, bind, Tr.modify, addLine, h0] at h
  rw [← h, h0]; rfl

theorem ifEndOp_ok {l : String} {r : List String} {s s' : St} {u : Unit} (h0 : s.funcs = []) (hi : s.ifs = l :: r)
    (h : ifEndOp s = .ok (u, s')) :
    s' = { s with ifs := r, globalCode := .clabel l :: .close :: .cgoto l :: s.globalCode } := by
  simp [ifEndOp, currentIf, hi, bind, addLine, h0, Tr.modify] at h
  rw [← h, h0]

theorem elseIfStartOp_ok {c l : String} {r : List String} {s s' : St} {u : Unit} (h0 : s.funcs = []) (hi : s.ifs = l :: r)
    (h : elseIfStartOp c s = .ok (u, s')) : s' = advB s [.elseIfOpen (ifStartLine c), .cgoto l] 0 := by
  simp [elseIfStartOp, currentIf, hi, bind, addLine, h0] at h
  rw [← h, ← h0, ← hi]; rfl

theorem elseStartOp_ok {l : String} {r : List String} {s s' : St} {u : Unit} (h0 : s.funcs = []) (hi : s.ifs = l :: r)
    (h : elseStartOp s = .ok (u, s')) : s' = advB s [.elseOpen, .cgoto l] 0 := by
  simp [elseStartOp, currentIf, hi, bind, addLine, h0] at h
  rw [← h, ← h0, ← hi]; rfl

theorem forStartOp_ok {s s' : St} {u : Unit} (h0 : s.funcs = []) (h : forStartOp s = .ok (u, s')) :
    s' = { s with endLabels := endLabel s.forCounter :: s.endLabels, fors := forLabel s.forCounter :: s.fors,
                  forCounter := s.forCounter + 1,
                  globalCode := .clabel (forLabel s.forCounter) :: .set (flagName s.forCounter) "" :: s.globalCode } := by
  simp [forStartOp, bind, Tr.modify, Tr.get, currentFor, addLine, h0, currentForVar] at h
  rw [← h, h0]; rfl

theorem currentForVar_eq {s : St} {n : Nat} (h : s.forCounter = n + 1) : currentForVar s = flagName n := by
  simp [currentForVar, h, flagName]

theorem forIncrementStartOp_ok {s s' : St} {u : Unit} {n : Nat} (h0 : s.funcs = []) (hn : s.forCounter = n + 1)
    (h : forIncrementStartOp s = .ok (u, s')) : s' = advB s [.opn ("if defined " ++ flagName n ++ " (")] 0 := by
  simp [forIncrementStartOp, bind, Tr.get, addLine, h0, currentForVar_eq hn] at h
  rw [← h, ← h0]; rfl

theorem forIncrementEndOp_ok {s s' : St} {u : Unit} {n : Nat} (h0 : s.funcs = []) (hn : s.forCounter = n + 1)
    (h : forIncrementEndOp s = .ok (u, s')) : s' = advB s [.set (flagName n) "1", .close] 0 := by
  simp [forIncrementEndOp, bind, Tr.get, addLine, h0, currentForVar_eq hn] at h
  rw [← h, ← h0]; rfl

theorem forEndOp_ok {l e : String} {r r' : List String} {s s' : St} {u : Unit} (h0 : s.funcs = []) (hf : s.fors = l :: r)
    (he : s.endLabels = e :: r') (h : forEndOp s = .ok (u, s')) :
    s' = { s with endLabels := r', fors := r, globalCode := .clabel e :: .close :: .cgoto l :: s.globalCode } := by
  simp [forEndOp, currentFor, hf, bind, addLine, h0, Tr.get, he, forEndTail, Tr.modify] at h
  rw [← h, h0]

theorem brkOp_ok {e : String} {r' : List String} {s s' : St} {u : Unit} (h0 : s.funcs = []) (he : s.endLabels = e :: r')
    (h : brkOp s = .ok (u, s')) : s' = advB s [.cgoto e] 0 := by
  simp [brkOp, bind, Tr.get, he, brkTail, addLine, h0] at h
  rw [← h, ← h0, ← he]; rfl

theorem contOp_ok {l : String} {r : List String} {s s' : St} {u : Unit} (h0 : s.funcs = []) (hf : s.fors = l :: r)
    (h : contOp s = .ok (u, s')) : s' = advB s [.cgoto l] 0 := by
  simp [contOp, currentFor, hf, bind, addLine, h0] at h
  rw [← h, ← h0, ← hf]; rfl

theorem panicOp_top {v : String} {s s' : St} (h0 : s.funcs = []) (h : panicOp v s = .ok ((), s')) :
    Adv s s' [.goto "end", .set "_e" "1", .call "_ech" [], .set "_fa0" v] 0 := by
  unfold panicOp at h
  obtain ⟨_, s1, h1, h⟩ := EM.bind_ok h
  obtain ⟨_, s2, h2, h3⟩ := EM.bind_ok h
  have a1 := callEcho_top h0 h1
  have h01 := a1.funcs_nil h0
  rw [addLine_top _ _ h01] at h2
  obtain ⟨_, rfl⟩ := EM.pure_ok h2
  rw [addLine_top _ { s1 with globalCode := .set "_e" "1" :: s1.globalCode } h01] at h3
  obtain ⟨_, rfl⟩ := EM.pure_ok h3
  exact (a1.trans (Adv.ofAdvB s1 [.set "_e" "1"] 0 rfl)).trans (Adv.ofAdvB _ [.goto "end"] 0 rfl)

end Tsh.SemB
