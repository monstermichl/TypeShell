/-
  The typed pass on definitions and assignments: what the rules of the statement walk need of them, and the reading of `DefRun`.
-/
import TshVerif.Lemmas.ParserTypedCtx
import TshVerif.Lemmas.ParserStmtRuns
namespace Tsh.Parser
open Tsh Tsh.Tr Tsh.LexTables

theorem adopt_ok {v v' : Var} {t : ValueType} (hv : PT.known v.vt = true) (ht : PT.known t = true)
    (h : adopt (v, t) = some v') : v'.vt.equals t = true ∧ PT.known v'.vt = true := by
  unfold adopt at h
  split at h
  · cases h; exact ⟨equals_refl t, ht⟩
  · split at h
    · cases h; exact ⟨‹_›, hv⟩
    · cases h

theorem default_ok {vt : ValueType} {e : Expr} (hb : PT.known vt = true) (h : defaultVarValue vt = some e) :
    PT.expr e = true ∧ PT.callArity1 e = true ∧ vt.equals (Expr.valueType e) = true ∧ PT.hasValue e = true := by
  unfold defaultVarValue at h
  obtain ⟨dt, sl⟩ := vt
  cases sl
  · cases dt <;> cases h <;> exact ⟨rfl, rfl, rfl, rfl⟩
  · simp at h
    subst h
    have hb' : basicDt dt = true := known_slice_basic hb rfl
    exact ⟨by simp [PT.expr, PT.elems, hb'], rfl, by simp [Expr.valueType, ValueType.equals], hasValue_of_basic hb'⟩

theorem vals1_cons {e : Expr} {rest : List Expr} : PT.vals1 (e :: rest) = true ↔
    PT.expr e = true ∧ PT.callArity1 e = true ∧ PT.hasValue e = true ∧ PT.vals1 rest = true := by
  simp only [PT.vals1, Bool.and_eq_true, and_assoc]

theorem mapM_default :
    ∀ {vars : List Var} {vals : List Expr}, vars.mapM (fun v => defaultVarValue v.vt) = some vals →
      (∀ v ∈ vars, PT.known v.vt = true) →
      PT.vals1 vals = true ∧ PT.varsMatch vars (vals.map Expr.valueType) = true ∧ PT.varsKnown vars = true := by
  intro vars
  induction vars with
  | nil => intro vals h _; simp at h; subst h; simp [PT.vals1, PT.varsMatch, PT.varsKnown]
  | cons v vs ih =>
    intro vals h hv
    obtain ⟨e, rest, h1, h2, rfl⟩ := mapM_cons_some h
    have hvs : PT.known v.vt = true := hv v (List.mem_cons_self ..)
    obtain ⟨m1, m2, m3⟩ := ih h2 (fun x hx => hv x (List.mem_cons_of_mem _ hx))
    obtain ⟨d1, d2, d3, d4⟩ := default_ok hvs h1
    simp only [PT.varsKnown] at m3 ⊢
    exact ⟨vals1_cons.mpr ⟨d1, d2, d4, m1⟩, by simp [PT.varsMatch, d3, m2], by simp [hvs, m3]⟩

theorem multi_one (c : Expr) : multiReturnTypes [c] = PT.multiTypes c := by
  cases c <;> rfl

theorem multiTypes_spec {call : Expr} {ts : List ValueType} (h : PT.multiTypes call = some ts) (he : PT.expr call = true) :
    ts.length > 1 ∧ ts.all PT.known = true := by
  unfold PT.multiTypes at h
  split at h
  · split at h
    · cases h
      simp only [PT.expr, Bool.and_eq_true] at he
      exact ⟨‹_›, all_basic_known he.2⟩
    · cases h
  · cases h; exact ⟨by decide, rfl⟩
  · cases h

theorem valuesTypes_known {values : List Expr} (he : exprsP values) : (valuesTypes values).all PT.known = true := by
  unfold valuesTypes
  cases hm : multiReturnTypes values with
  | none => exact exprs_known he
  | some ts =>
    obtain ⟨call, rfl⟩ := multi_single hm
    exact (multiTypes_spec (multi_one call ▸ hm) (exprsP_iff.mp he call (List.mem_cons_self ..))).2

theorem incDec_ok {v : Var} (hv : v.vt.isInt = true) (b : Bool) : stmtP (incDecStmt v b) := by
  obtain ⟨n, vt, g, p⟩ := v
  cases isInt_eq hv
  cases b <;> rfl

theorem typed_targets {ctx : Ctx} {vars : List Var} {ts : List ValueType} (hc : CtxOK ctx) (ht : Targets ctx vars ts) :
    vars.isEmpty = false ∧ PT.varsKnown vars = true :=
  ⟨by cases vars with
      | nil => exact absurd rfl ht.ne
      | cons _ _ => rfl,
   List.all_eq_true.mpr fun v hv => let ⟨_, _, _, h⟩ := ht.found v hv; hc.var h⟩

/-- variables that match the types of single values; `.assign` takes it too: its clause of `PT.stmt` is the same text -/
theorem stmt_values {first : Bool} {values : List Expr} {vars : List Var} (he : exprsP values) (hs : ValsShape first values)
    (hn : multiReturnTypes values = none) (hne : vars.isEmpty = false) (hm : PT.varsMatch vars (valuesTypes values) = true)
    (hk : PT.varsKnown vars = true) : PT.stmt (.varDef vars values) = true := by
  have h1 : PT.vals1 values = true := (vals_of he hs).2.resolve_right <| by
    rintro ⟨_, c, rfl, _, n, rets, args, rfl, hr⟩
    simp [multiReturnTypes, hr] at hn
  have ht : valuesTypes values = values.map Expr.valueType := by simp [valuesTypes, hn]
  simp only [PT.stmt, h1, hne, hk, ht ▸ hm, Bool.not_false, Bool.and_self]

theorem stmt_call {call : Expr} {ts : List ValueType} {vars : List Var} (he : exprP call) (hts : multiReturnTypes [call] = some ts)
    (hne : vars.isEmpty = false) (hm : PT.varsMatch vars (valuesTypes [call]) = true) (hk : PT.varsKnown vars = true) :
    PT.stmt (.varDefCall vars call) = true := by
  have hmt : PT.multiTypes call = some ts := multi_one call ▸ hts
  have ht : valuesTypes [call] = ts := by simp [valuesTypes, hts]
  simp only [PT.stmt, he.out, hne, hk, hmt, ht ▸ hm, Bool.not_false, Bool.and_self]

theorem typed_compound {v : Var} {op : String} {value : Expr} (hk : PT.known v.vt = true) (he : exprP value)
    (heq : Expr.valueType value = v.vt) (hop : (allowedBinary (Expr.valueType value)).contains op = true) :
    stmtP (.assign [v] [.binary op (.varEval v) value]) := by
  have hk := heq ▸ hk
  have hb := allowedBinary_ok hop
  have hasBin : PT.hasValue (Expr.binary op (Expr.varEval v) value) = true := by
    apply hasValue_of_dt <;>
      (simp only [Expr.valueType, ← heq]; intro hd; simp [binaryAllowed, hd] at hb)
  have hbin : PT.expr (Expr.binary op (Expr.varEval v) value) = true := by
    simp only [PT.expr, Expr.valueType, he.out, ← heq, hk, equals_refl, hb, Bool.and_self]
  have h1 : PT.vals1 [Expr.binary op (Expr.varEval v) value] = true := vals1_cons.mpr ⟨hbin, rfl, hasBin, rfl⟩
  simp only [stmtP, PT.stmt, h1, List.map_cons, List.map_nil, PT.varsMatch,
    Expr.valueType, equals_refl, PT.varsKnown, List.all_cons, List.all_nil, ← heq, hk, List.isEmpty_cons, Bool.not_false,
    Bool.and_self]

theorem mkVar_known {ctx : Ctx} (hc : CtxOK ctx) {pfx : String} {spec : ValueType} (hs : PT.known spec = true) {t : Tok} {v : Var}
    (h : mkVar ctx pfx spec t = some v) : PT.known v.vt = true := by
  unfold mkVar at h
  split at h
  · rename_i v0 hf0
    split at h
    · cases h
    · cases h
      dsimp only
      split
      · exact hc.var hf0
      · exact hs
  · cases h; exact hs

theorem head_known {ctx : Ctx} (hc : CtxOK ctx) {pfx : String} {short : Bool} {names : List Tok} {spec : ValueType} {vars : List Var}
    (hh : DefHead ctx pfx short names spec vars) : vars.length ≠ 0 ∧ ∀ v ∈ vars, PT.known v.vt = true :=
  ⟨by rw [(mapM_get hh.vars).1]; exact fun e => hh.ne (List.length_eq_zero_iff.mp e),
   fun v hv => (mapM_mem hh.vars v hv).elim fun t ht => mkVar_known hc hh.known ht.2⟩

theorem adopted_ok {values : List Expr} {vars vars' : List Var} (he : exprsP values)
    (hk : vars.length ≠ 0 ∧ ∀ v ∈ vars, PT.known v.vt = true) (hlen : (valuesTypes values).length = vars.length)
    (hv' : (vars.zip (valuesTypes values)).mapM adopt = some vars') :
    vars'.isEmpty = false ∧ PT.varsMatch vars' (valuesTypes values) = true ∧ PT.varsKnown vars' = true := by
  have hkn := List.all_eq_true.mp (valuesTypes_known he)
  obtain ⟨hm, hk', hl⟩ := mapM_zip_match (K := fun v => PT.known v.vt = true) hv' hlen.symm fun _ _ hp _ h =>
    adopt_ok (hk.2 _ (List.of_mem_zip hp).1) (hkn _ (List.of_mem_zip hp).2) h
  refine ⟨?_, hm, List.all_eq_true.mpr hk'⟩
  cases vars' with
  | nil => exact absurd hl.symm hk.1
  | cons _ _ => rfl

theorem typed_def (fuel : Nat) (ctx : Ctx) (hc : CtxOK ctx) : Post (evalVarDefinition fuel ctx) stmtP :=
  (evalVarDefinition_run fuel ctx).mono fun st h => by
    have W := ((exprWalk typedRule fuel).values ctx true hc).ok
    cases h with
    | values hh hv hs hlen hv' hn =>
      have he := (hv.elim W).1
      obtain ⟨h1, h2, h3⟩ := adopted_ok he (head_known hc hh) hlen hv'
      exact stmt_values he hs hn h1 h2 h3
    | call hh hv hlen hv' hts =>
      have he := (hv.elim W).1
      obtain ⟨h1, h2, h3⟩ := adopted_ok he (head_known hc hh) hlen hv'
      exact stmt_call (exprsP_iff.mp he _ (List.mem_cons_self ..)) hts h1 h2 h3
    | @defaults _ _ _ _ vars values hh hv =>
      obtain ⟨m1, m2, m3⟩ := mapM_default hv (head_known hc hh).2
      have hne : vars.isEmpty = false := by
        cases vars with
        | nil => exact absurd rfl (head_known hc hh).1
        | cons _ _ => rfl
      simp only [stmtP, PT.stmt, m1, m2, m3, hne, Bool.not_false, Bool.and_self]

end Tsh.Parser
