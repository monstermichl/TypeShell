/-
  About Model/Lexer.lean, for Props/C11, C12, C13: every token that `step` takes leaves a proper suffix of the input
  (`step_eats`, from one lemma per scanner); what `step` does on a blank and on the two kinds of comment; `tokenize` read back
  as `tokenizeTrace` with the layout lexemes filtered out.
-/
import TshVerif.Model.Lexer
namespace Tsh.Lexer
open Tsh Tsh.LexTables

def Suffix (s rest : Bytes) : Prop := ∃ pre, s = pre ++ rest

def Consumes (s rest : Bytes) : Prop := ∃ pre, pre ≠ [] ∧ s = pre ++ rest

theorem Consumes.length_lt {s rest : Bytes} (h : Consumes s rest) : rest.length < s.length := by
  obtain ⟨pre, hne, rfl⟩ := h
  cases pre with
  | nil => exact absurd rfl hne
  | cons a t => simp; omega

theorem Consumes.suffix {s rest : Bytes} (h : Consumes s rest) : Suffix s rest := by
  obtain ⟨pre, _, rfl⟩ := h; exact ⟨pre, rfl⟩

theorem Suffix.refl (s : Bytes) : Suffix s s := ⟨[], by simp⟩
theorem Suffix.cons {s rest : Bytes} (b : UInt8) (h : Suffix s rest) : Suffix (b :: s) rest := by
  obtain ⟨pre, rfl⟩ := h; exact ⟨b :: pre, by simp⟩
theorem Suffix.trans {a b c : Bytes} (h1 : Suffix a b) (h2 : Suffix b c) : Suffix a c := by
  obtain ⟨p, rfl⟩ := h1; obtain ⟨q, rfl⟩ := h2; exact ⟨p ++ q, by simp⟩
theorem Suffix.drop (s : Bytes) (n : Nat) : Suffix s (s.drop n) := ⟨s.take n, by simp⟩
theorem Suffix.consumes_cons {s rest : Bytes} (b : UInt8) (h : Suffix s rest) : Consumes (b :: s) rest := by
  obtain ⟨pre, rfl⟩ := h; exact ⟨b :: pre, by simp, by simp⟩
theorem Suffix.length_le {s rest : Bytes} (h : Suffix s rest) : rest.length ≤ s.length := by
  obtain ⟨pre, rfl⟩ := h; simp

theorem dropWhile_suffix (p : UInt8 → Bool) (s : Bytes) : Suffix s (s.dropWhile p) :=
  ⟨s.takeWhile p, by simp [List.takeWhile_append_dropWhile]⟩

theorem stripPrefix_suffix {p s r : Bytes} (h : stripPrefix? p s = some r) : Suffix s r :=
  ⟨p, stripPrefix?_eq_some h⟩

theorem scanBlockBody_suffix (s body rest : Bytes) (h : scanBlockBody s = some (body, rest)) : Suffix s rest := by
  fun_induction scanBlockBody s generalizing body with
  | case1 r => cases h; exact ⟨[42, 47], rfl⟩
  | case2 b t _ ih =>
    obtain ⟨⟨bd, rr⟩, hr, heq⟩ := Option.map_eq_some_iff.mp h
    cases heq
    exact (ih bd hr).cons b
  | case3 => cases h

theorem scanString_suffix {raw : Bool} {fuel : Nat} {acc s v rest : Bytes}
    (h : scanString raw fuel acc s = .ok v rest) : Suffix s rest := by
  fun_induction scanString raw fuel acc s with
  | case1 | case2 | case4 => cases h
  | case3 fuel acc c t _ v' k _ ih => exact ((Suffix.drop t (k - 1)).trans (ih h)).cons c
  | case5 fuel acc c t _ _ ih => exact (ih h).cons c
  | case6 fuel acc c t _ _ => exact (StrRes.ok.inj h).2 ▸ (Suffix.refl t).cons c
  | case7 fuel acc c t _ _ ih => exact (ih h).cons c

theorem stripPrefix_consumes {p s r : Bytes} (hp : p ≠ []) (h : stripPrefix? p s = some r) : Consumes s r :=
  ⟨p, hp, stripPrefix?_eq_some h⟩

theorem scanBool_consumes {s w rest : Bytes} (h : scanBool s = some (w, rest)) : Consumes s rest := by
  unfold scanBool at h
  extract_lets try_ at h
  have key : ∀ w' r, w' ≠ [] → try_ w' = some r → Consumes s r.2 := by
    intro w' r hw hr
    simp only [try_] at hr
    split at hr
    · next rest' hs =>
      split at hr
      · split at hr
        · cases hr
        · cases hr; exact stripPrefix_consumes hw hs
      · cases hr; exact stripPrefix_consumes hw hs
    · cases hr
  split at h
  · next r hr => cases h; exact key _ _ (List.cons_ne_nil _ _) hr
  · exact key _ _ (List.cons_ne_nil _ _) h

theorem takeWhile_consumes (p : UInt8 → Bool) (s : Bytes) (h : (s.takeWhile p) ≠ []) : Consumes s (s.dropWhile p) :=
  ⟨s.takeWhile p, h, List.takeWhile_append_dropWhile.symm⟩

theorem scanNumber_consumes {s n rest : Bytes} (h : scanNumber s = some (n, rest)) : Consumes s rest := by
  unfold scanNumber spanDigits at h
  dsimp only at h
  split at h
  · cases h
  · next hne =>
    have hc : Consumes s (s.dropWhile isDigitB) := takeWhile_consumes _ _ fun e => hne (e ▸ rfl)
    split at h
    · next rest' heq =>
      split at h
      · cases h; exact hc
      · cases h
        obtain ⟨pre, hpre, hs⟩ := hc
        refine ⟨pre ++ 46 :: rest'.takeWhile isDigitB, List.append_ne_nil_of_left_ne_nil hpre _, ?_⟩
        rw [hs, heq, List.append_assoc, List.cons_append, List.takeWhile_append_dropWhile]
    · cases h; exact hc

theorem scanPunct_consumes (tbl : List (Bytes × Nat)) (hk : ∀ e ∈ tbl, e.1 ≠ []) {s : Bytes} {ty : Nat} {v rest : Bytes}
    (h : scanPunct tbl s = some (ty, v, rest)) : Consumes s rest := by
  fun_induction scanPunct tbl s with
  | case1 => cases h
  | case2 k t tbl s r hr => cases h; exact stripPrefix_consumes (hk _ List.mem_cons_self) hr
  | case3 k t tbl s hr ih => exact ih (fun e he => hk e (List.mem_cons_of_mem _ he)) h

theorem punctB_nonempty : ∀ e ∈ punctB, e.1 ≠ [] := by decide +kernel

def Step.Eats (s : Bytes) : Step → Prop
  | .tok _ _ rest => Consumes s rest
  | .err => True

theorem step_eats (last : Nat) (s : Bytes) : (step last s).Eats s := by
  -- the `split`s follow the order in which `step` tries its scanners: string, block comment, line comment, bool, number,
  -- identifier, punctuation; each leaf is the `_suffix` / `_consumes` lemma of that scanner
  unfold step
  split
  · trivial
  · next c0 s1 =>
    split
    · split
      · next v r hs => exact (scanString_suffix hs).consumes_cons c0
      · trivial
    · dsimp only
      split
      · next r hb =>
        split at hb
        · next body heq =>
          obtain ⟨⟨bd, rr⟩, hbb, rfl⟩ := Option.map_eq_some_iff.mp hb
          exact heq ▸ ((scanBlockBody_suffix _ _ _ hbb).cons 42).consumes_cons 47
        · cases hb
      · split
        · next body heq => exact heq ▸ ((dropWhile_suffix _ body).cons 47).consumes_cons 47
        · split
          · next w r hbool => exact scanBool_consumes hbool
          · split
            · next r hn =>
              split at hn
              · split at hn
                · cases hn
                · obtain ⟨⟨n, rr⟩, hnn, rfl⟩ := Option.map_eq_some_iff.mp hn
                  exact (scanNumber_consumes hnn).suffix.consumes_cons c0
              · obtain ⟨⟨n, rr⟩, hnn, rfl⟩ := Option.map_eq_some_iff.mp hn
                exact scanNumber_consumes hnn
            · split
              · next halpha =>
                refine takeWhile_consumes _ _ ?_
                rw [List.takeWhile_cons, show isIdentB c0 = true by simp [isIdentB, halpha]]
                exact List.cons_ne_nil _ _
              · split
                · next ty' v r hp => exact scanPunct_consumes _ punctB_nonempty hp
                · trivial

theorem step_consumes {last : Nat} {s : Bytes} {ty : Nat} {val rest : Bytes}
    (h : step last s = .tok ty val rest) : Consumes s rest := by
  have := step_eats last s
  rwa [h] at this

theorem step_blank (last : Nat) (s : Bytes) {b : UInt8} (hb : b = 32 ∨ b = 9) : step last (b :: s) = .tok TT_SPACE [b] s := by
  rcases hb with rfl | rfl
  · rfl
  · rfl

theorem step_blockComment (last : Nat) {body b rest : Bytes} (h : scanBlockBody body = some (b, rest)) :
    step last (47 :: 42 :: body) = .tok TT_COMMENT b rest := by
  simp [step, h]

theorem step_lineComment (last : Nat) (body : Bytes) :
    step last (47 :: 47 :: body) = .tok TT_COMMENT (scanLine body).1 (scanLine body).2 := by
  simp [step]

theorem tokenize_eq_ok {src : Bytes} {ts : List Token} (h : tokenize src = .ok ts) :
    ∃ ls pos, tokenizeTrace src = .ok (ls, pos) ∧
      ts = (ls.filter fun l => !(l.ty == TT_SPACE || l.ty == TT_COMMENT)).map Lexeme.toToken
            ++ [{ ty := TT_EOF, val := [], row := pos.1, col := pos.2 }] := by
  unfold tokenize at h
  split at h
  · next ls pos ht => cases h; exact ⟨ls, pos, ht, rfl⟩
  · cases h
  · cases h

end Tsh.Lexer
