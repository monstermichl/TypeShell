/-
  The shape of the Batch translation of an expression, stated on its own: exactly one operand text, only new global lines and
  helper variables (`exprB_shape`: `exprB_full` without what it says of runs), and the two states determine the lines and the
  number of helpers (`Adv.unique`).  The claims about statements carry their shape with them: nothing imports this file.
-/
import TshVerif.Lemmas.SemBExprMain
namespace Tsh.SemB
open Tsh Tsh.Tr Tsh.Batch Tsh.Sem

theorem Adv.unique {s s' : St} {a b : List BLine} {m n : Nat} (h1 : Adv s s' a m) (h2 : Adv s s' b n) : a = b ∧ m = n := by
  have hc := h1.code.symm.trans h2.code
  have hn := h1.cnt.symm.trans h2.cnt
  exact ⟨List.append_cancel_right hc, by omega⟩

theorem exprB_shape : ∀ (e : Expr) (used : Bool) (s : St) (r : List String) (s' : St), Src.fragExpr e = true → s.funcs = [] →
    Tr.evalExpr conv e used s = .ok (r, s') → ∃ t new n, r = [t] ∧ Adv s s' new n := by
  intro e used s r s' hf h0 hc
  obtain ⟨t, new, n, er, ad, _⟩ := exprB_full e hf used s r s' h0 hc
  exact ⟨t, new, n, er, ad⟩

end Tsh.SemB
