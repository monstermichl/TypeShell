/-
  From the parser's guarantee to the emitters' discipline: `PT.expr` / `PT.stmt` together with `PT.strictE` / `PT.strictS` imply
  `Expr.typed` / `Stmt.typed` (Model/Typed.lean), clause by clause over the mutual checkers.
-/
import TshVerif.Lemmas.ParserTypedCtx
namespace Tsh.Parser
open Tsh Tsh.Tr Tsh.LexTables

theorem isBool_of_eq {a b : ValueType} (h : (a == b) = true) (hb : b.isBool = true) : a.isBool = true := by
  simp only [beq_iff_eq] at h; exact h ▸ hb

theorem typedChain_eq {e : Expr} (h : PT.chain e = true) : typedChain e = Expr.typed e := by
  cases e with
  | app n args nx => cases nx <;> rfl
  | _ => cases h

mutual
theorem typed_of_pt : (e : Expr) → PT.expr e = true → PT.strictE e = true → Expr.typed e = true
  | .boolLit _, _, _ | .intLit _, _, _ | .strLit _, _, _ | .varEval _, _, _ => rfl
  | .unary op x vt, h, hs => by
      simp only [PT.expr, PT.strictE, Expr.typed, Bool.and_eq_true] at h hs ⊢
      exact ⟨⟨⟨h.1.1.1, typed_of_pt x h.1.1.2 hs⟩, h.1.2⟩, isBool_of_eq h.2 h.1.2⟩
  | .binary op l r, h, hs => by
      simp only [PT.expr, PT.strictE, Expr.typed, Bool.and_eq_true] at h hs ⊢
      exact ⟨⟨⟨typed_of_pt l h.1.1.1 hs.1, typed_of_pt r h.1.1.2 hs.2⟩, h.1.2⟩, h.2⟩
  | .compare op l r, h, hs => by
      simp only [PT.expr, PT.strictE, Expr.typed, Bool.and_eq_true] at h hs ⊢
      exact ⟨⟨⟨typed_of_pt l h.1.1.1 hs.1.1, typed_of_pt r h.1.1.2 hs.1.2⟩, h.1.2⟩, hs.2⟩
  | .logical op l r, h, hs => by
      simp only [PT.expr, PT.strictE, Expr.typed, Bool.and_eq_true] at h hs ⊢
      exact ⟨⟨⟨⟨typed_of_pt l h.1.1.1.1 hs.1, typed_of_pt r h.1.1.1.2 hs.2⟩, h.1.1.2⟩, h.1.2⟩, h.2⟩
  | .group x, h, hs => typed_of_pt x h hs
  | .call _ rets args, h, hs => by
      simp only [PT.expr, PT.strictE, Expr.typed, Bool.and_eq_true] at h hs ⊢
      exact typedArgs_of_args args h.1 hs
  | .app _ args none, h, hs => typedArgs_of_args args h hs
  | .app _ args (some nx), h, hs => by
      simp only [PT.expr, PT.strictE, Expr.typed, Bool.and_eq_true] at h hs ⊢
      exact ⟨typedArgs_of_args args h.1 hs.1, typedChain_eq h.2 ▸ typed_of_pt nx (chain_expr h.2) hs.2⟩
  | .sliceNew dt vals, h, hs => by
      simp only [PT.expr, PT.strictE, Expr.typed, Bool.and_eq_true] at h hs ⊢
      exact ⟨typedArgs_of_elems dt vals h.1 hs, h.2⟩
  | .sliceEval v i _, h, hs => by
      simp only [PT.expr, PT.strictE, Expr.typed, Bool.and_eq_true] at h hs ⊢
      exact ⟨⟨⟨typed_of_pt v h.1.1.1.1 hs.1, typed_of_pt i h.1.1.1.2 hs.2⟩, h.1.1.2⟩, h.1.2⟩
  | .substr v a none, h, hs => by
      simp only [PT.expr, PT.strictE, Expr.typed, Bool.and_eq_true] at h hs ⊢
      exact ⟨⟨⟨typed_of_pt v h.1.1.1 hs.1, typed_of_pt a h.1.1.2 hs.2⟩, h.1.2⟩, h.2⟩
  | .substr v a (some b), h, hs => by
      simp only [PT.expr, PT.strictE, Expr.typed, Bool.and_eq_true] at h hs ⊢
      exact ⟨⟨⟨⟨⟨typed_of_pt v h.1.1.1.1.1 hs.1.1, typed_of_pt a h.1.1.1.1.2 hs.1.2⟩, typed_of_pt b h.1.1.1.2 hs.2⟩, h.1.1.2⟩, h.1.2⟩, h.2⟩
  | .len x, h, hs | .itoa x, h, hs | .exists_ x, h, hs | .read x, h, hs | .input (some x), h, hs => by
      simp only [PT.expr, PT.strictE, Expr.typed, Bool.and_eq_true] at h hs ⊢
      exact ⟨typed_of_pt x h.1 hs, h.2⟩
  | .input none, _, _ => rfl
  | .copy dst src, h, hs => by
      simp only [PT.expr, PT.strictE, Expr.typed, Bool.and_eq_true] at h hs ⊢
      exact ⟨⟨typed_of_pt src h.1.1.1 hs, h.1.2⟩, h.2⟩
  | .write _ _ _, h, _ | .bad _, h, _ => by cases h

theorem typedArgs_of_args : (es : List Expr) → PT.args_ es = true → PT.strictArgs es = true → typedArgs es = true
  | [], _, _ => rfl
  | e :: rest, h, hs => by
      simp only [PT.args_, PT.strictArgs, typedArgs, Bool.and_eq_true] at h hs ⊢
      exact ⟨⟨typed_of_pt e h.1.1 hs.1.1, hs.1.2⟩, typedArgs_of_args rest h.2 hs.2⟩

theorem typedArgs_of_elems (dt : DataType) : (es : List Expr) → PT.elems dt es = true → PT.strictArgs es = true → typedArgs es = true
  | [], _, _ => rfl
  | e :: rest, h, hs => by
      simp only [PT.elems, PT.strictArgs, typedArgs, Bool.and_eq_true] at h hs ⊢
      exact ⟨⟨typed_of_pt e h.1.1 hs.1.1, hs.1.2⟩, typedArgs_of_elems dt rest h.2 hs.2⟩

end

theorem typedChain_of_chain : (e : Expr) → PT.chain e = true → PT.strictE e = true → typedChain e = true
  | e, h, hs => typedChain_eq h ▸ typed_of_pt e (chain_expr h) hs

theorem typedArgs_of_exprs : (es : List Expr) → PT.exprs es = true → PT.strictArgs es = true → typedArgs es = true
  | [], _, _ => rfl
  | e :: rest, h, hs => by
      simp only [PT.exprs, PT.strictArgs, typedArgs, Bool.and_eq_true] at h hs ⊢
      exact ⟨⟨typed_of_pt e h.1 hs.1.1, hs.1.2⟩, typedArgs_of_exprs rest h.2 hs.2⟩

theorem typedAll_of_args : (es : List Expr) → PT.args_ es = true → PT.strictAll es = true → typedAll es = true
  | [], _, _ => rfl
  | e :: rest, h, hs => by
      simp only [PT.args_, PT.strictAll, typedAll, Bool.and_eq_true] at h hs ⊢
      exact ⟨typed_of_pt e h.1.1 hs.1, typedAll_of_args rest h.2 hs.2⟩

theorem varsMatch_length : ∀ {vars : List Var} {ts : List ValueType}, PT.varsMatch vars ts = true → ts.length = vars.length
  | [], [], _ => rfl
  | _ :: vs, _ :: ts, h => by
      simp only [PT.varsMatch, Bool.and_eq_true] at h
      simp [varsMatch_length h.2]
  | [], _ :: _, h => by simp [PT.varsMatch] at h
  | _ :: _, [], h => by simp [PT.varsMatch] at h

theorem multi_arity {call : Expr} {ts : List ValueType} (h : PT.multiTypes call = some ts) : Expr.arity call = ts.length := by
  unfold PT.multiTypes at h
  split at h
  · split at h
    · simp only [Option.some.injEq] at h; subst h; rfl
    · simp at h
  · simp only [Option.some.injEq] at h; subst h; rfl
  · simp at h

theorem typedS_expr (e : Expr) (h : PT.stmt (.expr e) = true) (hs : PT.strictS (.expr e) = true) :
    Stmt.typed (.expr e) = true := by
  cases e with
  | write path data append =>
    simp only [PT.stmt, Bool.and_eq_true] at h
    obtain ⟨⟨⟨⟨hp, hd⟩, hsp⟩, hsd⟩, ha⟩ := h
    simp only [Stmt.typed, Bool.and_eq_true]
    cases append with
    | none =>
      simp only [PT.strictS, PT.strictE, Bool.and_eq_true] at hs
      exact ⟨⟨⟨⟨typed_of_pt path hp hs.1, typed_of_pt data hd hs.2⟩, hsp⟩, hsd⟩, rfl⟩
    | some a =>
      simp only [PT.strictS, PT.strictE, Bool.and_eq_true] at hs
      simp only [PT.appendFlag, Bool.and_eq_true] at ha
      exact ⟨⟨⟨⟨typed_of_pt path hp hs.1.1, typed_of_pt data hd hs.1.2⟩, hsp⟩, hsd⟩,
        by simp [typedAppend, typed_of_pt a ha.1 hs.2, ha.2]⟩
  | call _ _ _ | app _ _ _ | copy _ _ | input _ | read _ =>
    simp only [PT.stmt, PT.strictS, Stmt.typed, Bool.and_eq_true] at h hs ⊢
    exact ⟨typed_of_pt _ h.1 hs, h.2⟩
  | _ => simp [PT.stmt, Expr.isCallLike] at h

mutual
theorem typedS_of_pt : (s : Stmt) → PT.stmt s = true → PT.strictS s = true → Stmt.typed s = true
  | .varDef vars vals, h, hs | .assign vars vals, h, hs => by
      simp only [PT.stmt, PT.strictS, Stmt.typed, Bool.and_eq_true] at h hs ⊢
      have := varsMatch_length h.1.1.2
      exact ⟨⟨typedArgs_of_exprs vals (vals1_exprs h.1.1.1) hs, by simpa using this⟩, h.1.2⟩
  | .varDefCall vars call, h, hs | .assignCall vars call, h, hs => by
      simp only [PT.stmt, PT.strictS, Stmt.typed, Bool.and_eq_true] at h hs ⊢
      cases hm : PT.multiTypes call with
      | none => simp [hm] at h
      | some ts =>
        simp only [hm] at h
        have h1 := varsMatch_length h.2
        have h2 := multi_arity hm
        exact ⟨⟨typed_of_pt call h.1.1.1 hs, by simp [h1, h2]⟩, h.1.1.2⟩
  | .sliceAssign v index value, h, hs => by
      simp only [PT.stmt, PT.strictS, Stmt.typed, Bool.and_eq_true] at h hs ⊢
      obtain ⟨⟨⟨⟨⟨hi, hx⟩, hint⟩, hkn⟩, hsl⟩, heq⟩ := h
      obtain ⟨⟨⟨si, sx⟩, s3⟩, s4⟩ := hs
      have hb := known_slice_basic hkn hsl
      have he : (Expr.valueType value).dt = v.vt.dt := by
        simp only [ValueType.equals, Bool.and_eq_true, beq_iff_eq] at heq
        exact heq.1
      exact ⟨⟨⟨⟨⟨typed_of_pt index hi si, typed_of_pt value hx sx⟩, hint⟩, he ▸ hb⟩, s3⟩, s4⟩
  | .funcDef _ _ _ _ body, h, hs => by
      simp only [PT.stmt, PT.strictS, Stmt.typed, Bool.and_eq_true] at h hs ⊢
      exact typedSs_of_pt body h.1.1.1 hs
  | .ret vals, h, hs => typedArgs_of_exprs vals h hs
  | .ifS cond body elifs els, h, hs => by
      simp only [PT.stmt, PT.strictS, Stmt.typed, Bool.and_eq_true] at h hs ⊢
      obtain ⟨⟨⟨⟨hc, hbool⟩, hb⟩, he⟩, hl⟩ := h
      obtain ⟨⟨⟨sc, sb⟩, se⟩, sl⟩ := hs
      exact ⟨⟨⟨⟨typed_of_pt cond hc sc, hbool⟩, typedSs_of_pt body hb sb⟩, typedEl_of_pt elifs he se⟩, typedSs_of_pt els hl sl⟩
  | .forS init cond incr body, h, hs => by
      simp only [PT.stmt, PT.strictS, Stmt.typed, Bool.and_eq_true] at h hs ⊢
      obtain ⟨⟨⟨⟨hi, hc⟩, hbool⟩, hn⟩, hb⟩ := h
      obtain ⟨⟨⟨si, sc⟩, sn⟩, sb⟩ := hs
      exact ⟨⟨⟨⟨typedO_of_pt init hi si, typed_of_pt cond hc sc⟩, hbool⟩, typedO_of_pt incr hn sn⟩, typedSs_of_pt body hb sb⟩
  | .brk, _, _ | .cont, _, _ => rfl
  | .print es, h, hs => typedAll_of_args es h hs
  | .panic e, h, hs => by
      simp only [PT.stmt, PT.strictS, Stmt.typed, Bool.and_eq_true] at h hs ⊢
      exact typed_of_pt e h.1 hs
  | .expr e, h, hs => typedS_expr e h hs

theorem typedSs_of_pt : (ss : List Stmt) → PT.stmts ss = true → PT.strictSs ss = true → typedStmts ss = true
  | [], _, _ => rfl
  | s :: rest, h, hs => by
      simp only [PT.stmts, PT.strictSs, typedStmts, Bool.and_eq_true] at h hs ⊢
      exact ⟨typedS_of_pt s h.1 hs.1, typedSs_of_pt rest h.2 hs.2⟩

theorem typedO_of_pt : (o : Option Stmt) → PT.opt o = true → PT.strictO o = true → typedOpt o = true
  | none, _, _ => rfl
  | some s, h, hs => typedS_of_pt s h hs

theorem typedEl_of_pt : (es : List (Expr × List Stmt)) → PT.elifs_ es = true → PT.strictEl es = true → typedElifs es = true
  | [], _, _ => rfl
  | (e, body) :: rest, h, hs => by
      simp only [PT.elifs_, PT.strictEl, typedElifs, Bool.and_eq_true] at h hs ⊢
      exact ⟨⟨⟨typed_of_pt e h.1.1.1 hs.1.1, h.1.1.2⟩, typedSs_of_pt body h.1.2 hs.1.2⟩, typedEl_of_pt rest h.2 hs.2⟩
end

end Tsh.Parser
