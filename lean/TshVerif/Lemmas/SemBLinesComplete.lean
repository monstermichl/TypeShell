/-
  The line interpreter `lrun` is complete for `LRun`: with enough fuel it finds every outcome the relation allows.  So `LRun` holds
  exactly where `lrun` answers - the function run on every script in every check IS the semantics of the line-level theorem - and
  `LRun`, being what a function computes, is deterministic.
-/
import TshVerif.Lemmas.SemBLines
namespace Tsh.SemB
open Tsh Tsh.Batch Tsh.Sem

theorem lrun_le {whole : List BLine} {f g : Nat} {L : List BLine} {c : Cfg} {r : Out × Cfg} (hg : f ≤ g)
    (h : lrun whole f L c = some r) : lrun whole g L c = some r :=
  (lrun_sound_mono whole f L c r.1 r.2 h g hg).2

theorem lrun_mono (whole : List BLine) : ∀ (f : Nat) (L : List BLine) (c : Cfg) (r : Out × Cfg),
    lrun whole f L c = some r → lrun whole (f + 1) L c = some r :=
  fun f _ _ _ => lrun_le (Nat.le_succ f)

theorem lrun_mono_add (whole : List BLine) (f : Nat) (L : List BLine) (c : Cfg) (r : Out × Cfg) (h : lrun whole f L c = some r) :
    ∀ k, lrun whole (f + k) L c = some r :=
  fun k => lrun_le (Nat.le_add_right f k) h

theorem lrun_complete {whole : List BLine} {L : List BLine} {c : Cfg} {o : Out} {c' : Cfg} (h : LRun whole L c o c') :
    ∃ f, lrun whole f L c = some (o, c') := by
  induction h with
  | done => exact ⟨1, rfl⟩
  | simple hs _ ih => obtain ⟨f, hf⟩ := ih; exact ⟨f + 1, by rw [lrun_stepB hs]; exact hf⟩
  | exit hs => exact ⟨1, by rw [lrun_stepB hs]; rfl⟩
  | label _ ih => obtain ⟨f, hf⟩ := ih; exact ⟨f + 1, hf⟩
  | plabel _ ih => obtain ⟨f, hf⟩ := ih; exact ⟨f + 1, hf⟩
  | close _ ih => obtain ⟨f, hf⟩ := ih; exact ⟨f + 1, hf⟩
  | jump ht _ ih => obtain ⟨f, hf⟩ := ih; exact ⟨f + 1, by simp only [lrun, ht]; exact hf⟩
  | enter ht _ ih => obtain ⟨f, hf⟩ := ih; exact ⟨f + 1, by simp only [lrun, ht]; exact hf⟩
  | skipToClose ht hk _ ih => obtain ⟨f, hf⟩ := ih; exact ⟨f + 1, by simp only [lrun, ht, hk]; exact hf⟩
  | skipToElse ht hk _ ih => obtain ⟨f, hf⟩ := ih; exact ⟨f + 1, by simp only [lrun, ht, hk]; exact hf⟩
  | skipToElseIf ht hk _ ih => obtain ⟨f, hf⟩ := ih; exact ⟨f + 1, by simp only [lrun, ht, hk]; exact hf⟩
  | finish hk =>
    refine ⟨1, ?_⟩
    simp only [lrun, nopRaw_endlocal, Bool.false_eq_true, if_false, beq_self_eq_true, if_true, hk, Option.map_some]
  | nop hp _ ih => obtain ⟨f, hf⟩ := ih; exact ⟨f + 1, by simp only [lrun, hp, if_true]; exact hf⟩
  | gotoL hne ht _ ih =>
    obtain ⟨f, hf⟩ := ih
    exact ⟨f + 1, by simp only [lrun, beq_iff_eq, hne, if_false, ht]; exact hf⟩

theorem LRun.det {whole : List BLine} {L : List BLine} {c : Cfg} {o1 o2 : Out} {c1 c2 : Cfg}
    (h1 : LRun whole L c o1 c1) (h2 : LRun whole L c o2 c2) : o1 = o2 ∧ c1 = c2 :=
  Prod.mk.inj (det_of_complete (run := fun g => lrun whole g L c) ((lrun_complete h1).imp fun _ e _ hg => lrun_le hg e)
    ((lrun_complete h2).imp fun _ e _ hg => lrun_le hg e))

end Tsh.SemB
