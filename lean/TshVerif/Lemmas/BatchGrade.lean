/-
  What the operations of the batch converter do to its state.  Every operation outside the control constructs is `Quiet`.
  The measures -- parenthesis depth of the emitted lines and heights of the construct stacks -- are unchanged by a quiet
  operation and changed by a fixed amount by each structural one; by the graded walk induction every statement of every
  program leaves them unchanged.
  At the end: a script is the dump of the final state, which is, up to order, start code, helper routines (balanced), emitted
  code and the two end lines.
-/
import TshVerif.Lemmas.BatchOps
import TshVerif.Lemmas.Walk
namespace Tsh.Batch
open Tsh Tsh.Tr

/-- nesting contribution of a line: `… (` opens, `)` closes, `) else (` and `) else if … (` are neutral -/
def delta : BLine → Int
  | .opn _ => 1
  | .close => -1
  | _ => 0

def sumD (ls : List BLine) : Int := (ls.map delta).sum

theorem sumD_cons (l : BLine) (ls : List BLine) : sumD (l :: ls) = delta l + sumD ls := by simp [sumD]
theorem sumD_append (a b : List BLine) : sumD (a ++ b) = sumD a + sumD b := by simp [sumD]
theorem sumD_nil : sumD [] = 0 := rfl

theorem sumD_perm {a b : List BLine} (h : a.Perm b) : sumD a = sumD b := by
  induction h with
  | nil => rfl
  | cons x _ ih => rw [sumD_cons, sumD_cons, ih]
  | swap x y l => simp only [sumD_cons]; omega
  | trans _ _ ih1 ih2 => exact ih1.trans ih2

theorem sumD_flat (ls : List BLine) (h : ∀ l ∈ ls, delta l = 0) : sumD ls = 0 := by
  induction ls with
  | nil => rfl
  | cons l rest ih => rw [sumD_cons, h l (.head _), ih fun x hx => h x (.tail _ hx)]; rfl

def codeLines (s : St) : List BLine := s.functionsCode.flatten ++ s.globalCode

/-- over the buffers `Dump` prints -/
def depthCount (s : St) : Int :=
  sumD s.startCode + sumD s.functionsCode.flatten + sumD s.globalCode

/-- One graded induction for five measures: depth and the four stack heights are weighted by a coefficient vector and summed
    (`mu`); a statement leaves `mu c` unchanged for EVERY `c`, in particular for the five unit vectors. -/
structure Coef where
  d : Int
  cI : Int
  cF : Int
  cE : Int
  cU : Int

def mu (c : Coef) (s : St) : Int :=
  c.d * depthCount s + c.cI * s.ifs.length + c.cF * s.fors.length + c.cE * s.endLabels.length + c.cU * s.funcs.length

theorem addLine_ok {l : BLine} {s s' : St} {a : Unit} (h : addLine l s = .ok (a, s')) :
    ∃ p fc gc, s' = { s with previousFunctionName := p, functionsCode := fc, globalCode := gc } ∧
      (fc.flatten ++ gc).Perm (l :: codeLines s) := by
  unfold addLine at h
  split at h
  · cases h; exact ⟨_, _, _, rfl, List.perm_middle⟩
  · next cur _ _ =>
    dsimp only at h
    by_cases hp : (cur != s.previousFunctionName) = true
    · rw [if_pos hp] at h; cases h; refine ⟨_, _, _, rfl, ?_⟩; exact .refl _
    · rw [if_neg hp] at h
      split at h
      · next blk more hfc =>
        cases h; refine ⟨s.previousFunctionName, _, s.globalCode, rfl, ?_⟩; rw [codeLines, hfc]; exact .refl _
      · cases h

/-- what emitting lines does to the measures: the depth moves by `k`, the stacks stay -/
structure Step (s s' : St) (k : Int) : Prop where
  depth : depthCount s' = depthCount s + k
  ifs : s'.ifs = s.ifs
  fors : s'.fors = s.fors
  endLabels : s'.endLabels = s.endLabels
  funcs : s'.funcs = s.funcs

theorem Step.ofAddLine {l : BLine} {s s' : St} {a : Unit} (h : addLine l s = .ok (a, s')) : Step s s' (delta l) := by
  obtain ⟨p, fc, gc, rfl, hp⟩ := addLine_ok h
  refine ⟨?_, rfl, rfl, rfl, rfl⟩
  have := sumD_perm hp
  simp only [depthCount, codeLines, sumD_append, sumD_cons] at this ⊢
  omega

theorem Step.trans {a b c' : St} {j k : Int} (h1 : Step a b j) (h2 : Step b c' k) : Step a c' (j + k) :=
  ⟨by rw [h2.depth, h1.depth]; omega, h2.ifs.trans h1.ifs, h2.fors.trans h1.fors, h2.endLabels.trans h1.endLabels, h2.funcs.trans h1.funcs⟩

theorem addLine_step {α : Type} {l : BLine} {k : Unit → BM α} {s s' : St} {a : α} (h : (addLine l >>= k) s = .ok (a, s')) :
    ∃ s1, Step s s1 (delta l) ∧ k () s1 = .ok (a, s') := by
  obtain ⟨_, s1, h1, h2⟩ := EM.bind_ok h
  exact ⟨s1, .ofAddLine h1, h2⟩

theorem delta_quiet {l : BLine} (h : quietLine l = true) : delta l = 0 := by
  cases l <;> first | rfl | cases h

theorem startLine_quiet {l : BLine} (h : startLine l = true) : quietLine l = true := by
  cases l <;> first | rfl | cases h

/-- what an operation outside the control constructs may do to the state -/
structure Quiet (s s' : St) : Prop where
  code : ∃ new, (codeLines s').Perm (new ++ codeLines s) ∧ ∀ l ∈ new, quietLine l = true
  start : ∃ new, s'.startCode = new ++ s.startCode ∧ ∀ l ∈ new, startLine l = true
  ifs : s'.ifs = s.ifs
  fors : s'.fors = s.fors
  endLabels : s'.endLabels = s.endLabels
  funcs : s'.funcs = s.funcs
  ifCounter : s'.ifCounter = s.ifCounter
  forCounter : s'.forCounter = s.forCounter

theorem Quiet.of_core {s s' : St} (h : core s' = core s) : Quiet s s' := by
  simp only [core, Prod.mk.injEq] at h
  obtain ⟨h1, _, h2, h3, h4, h5, h6, h7, h8, h9⟩ := h
  exact ⟨⟨[], by rw [codeLines, h2, h3]; exact .refl _, fun _ h => nomatch h⟩, ⟨[], h1, fun _ h => nomatch h⟩, h4, h5, h6, h7, h8, h9⟩

theorem Quiet.refl (s : St) : Quiet s s := .of_core rfl

theorem Quiet.trans {a b c : St} (h1 : Quiet a b) (h2 : Quiet b c) : Quiet a c := by
  obtain ⟨n1, p1, q1⟩ := h1.code
  obtain ⟨n2, p2, q2⟩ := h2.code
  obtain ⟨m1, e1, r1⟩ := h1.start
  obtain ⟨m2, e2, r2⟩ := h2.start
  refine ⟨⟨n2 ++ n1, ?_, ?_⟩, ⟨m2 ++ m1, by rw [e2, e1, List.append_assoc], ?_⟩, h2.ifs.trans h1.ifs, h2.fors.trans h1.fors,
    h2.endLabels.trans h1.endLabels, h2.funcs.trans h1.funcs, h2.ifCounter.trans h1.ifCounter, h2.forCounter.trans h1.forCounter⟩
  · rw [List.append_assoc]; exact p2.trans (p1.append_left n2)
  · intro l hl; exact (List.mem_append.mp hl).elim (q2 l) (q1 l)
  · intro l hl; exact (List.mem_append.mp hl).elim (r2 l) (r1 l)

def quietClosed : Closed St := Closed.ofRel Quiet Quiet.refl Quiet.trans

theorem quiet_bind {α β : Type} {x : BM α} {f : α → BM β} (hx : Rel Quiet x) (hf : ∀ a, Rel Quiet (f a)) : Rel Quiet (x >>= f) :=
  Rel.bind (R := Quiet) Quiet.trans hx hf
theorem quiet_get : Rel Quiet (Tr.get : BM St) := Rel.get Quiet.refl

theorem quiet_nextHelperVar : Rel Quiet nextHelperVar := by
  intro s a s' h; cases h; exact .of_core rfl

theorem currentFunc_ok {s s' : St} {l : String} (h : currentFunc s = .ok (l, s')) : s' = s ∧ ∃ rest, s.funcs = l :: rest := by
  unfold currentFunc at h
  split at h
  · next hi => cases h; exact ⟨rfl, _, hi⟩
  · cases h

theorem currentIf_ok {s s' : St} {l : String} (h : currentIf s = .ok (l, s')) : s' = s ∧ ∃ rest, s.ifs = l :: rest := by
  unfold currentIf at h
  split at h
  · next hi => cases h; exact ⟨rfl, _, hi⟩
  · cases h

theorem currentFor_ok {s s' : St} {l : String} (h : currentFor s = .ok (l, s')) : s' = s ∧ ∃ rest, s.fors = l :: rest := by
  unfold currentFor at h
  split at h
  · next hi => cases h; exact ⟨rfl, _, hi⟩
  · cases h

theorem quiet_currentFunc : Rel Quiet currentFunc := fun _ _ _ h => (currentFunc_ok h).1 ▸ .refl _
theorem quiet_currentIf : Rel Quiet currentIf := fun _ _ _ h => (currentIf_ok h).1 ▸ .refl _
theorem quiet_currentFor : Rel Quiet currentFor := fun _ _ _ h => (currentFor_ok h).1 ▸ .refl _

theorem Built.quiet {α : Type} {m : BM α} (h : Built m) : Rel Quiet m := by
  induction h with
  | pure a => exact Rel.pure Quiet.refl a
  | bind _ _ hx hf => exact quiet_bind hx hf
  | get => exact quiet_get
  | nextHelperVar => exact quiet_nextHelperVar
  | @addLine l hl =>
    intro s a s' h
    obtain ⟨p, fc, gc, rfl, hp⟩ := addLine_ok h
    exact ⟨⟨[l], hp, by simpa using hl⟩, ⟨[], rfl, fun _ h => nomatch h⟩, rfl, rfl, rfl, rfl, rfl, rfl⟩
  | @addStartLine l hl =>
    intro s a s' h; cases h
    exact ⟨⟨[], .refl _, fun _ h => nomatch h⟩, ⟨[l], rfl, by simpa using hl⟩, rfl, rfl, rfl, rfl, rfl, rfl⟩
  | flag f hf => exact Rel.modify _ fun s => .of_core (hf s)

theorem quiet_unaryOp (e o : String) : Rel Quiet (unaryOp e o) := by
  unfold unaryOp
  refine quiet_bind quiet_nextHelperVar fun h => ?_
  split
  · exact (built_helperLine fun _ => rfl).quiet
  · exact Rel.fail _

theorem quiet_binaryOp (l o r : String) (t : ValueType) : Rel Quiet (binaryOp l o r t) := by
  unfold binaryOp notAllowedBin
  refine quiet_bind quiet_nextHelperVar fun h => ?_
  split
  · exact Rel.fail _
  · split
    · split
      · exact (built_helperLine fun _ => rfl).quiet
      · exact Rel.fail _
    · split
      · exact (Built.bind built_varAssignment fun _ => built_varEvaluation).quiet
      · exact Rel.fail _
    · exact Rel.fail _

theorem quiet_comparisonOp (l o r : String) (t : ValueType) : Rel Quiet (comparisonOp l o r t) := by
  unfold comparisonOp comparisonOpWith
  split
  · exact Rel.fail _
  · exact (Built.bind .nextHelperVar fun _ => built_helperLine fun _ => rfl).quiet

theorem quiet_logicalOp (l o r : String) : Rel Quiet (logicalOp l o r) := by
  unfold logicalOp
  refine quiet_bind quiet_nextHelperVar fun _ => quiet_bind quiet_get fun _ => ?_
  split
  · exact (Built.bind (.addLine rfl) fun _ => built_varEvaluation).quiet
  · split
    · exact (Built.bind (.addLine rfl) fun _ => built_varEvaluation).quiet
    · exact Rel.fail _

theorem quiet_exprOps : ExprOps quietClosed conv where
  stringToString := fun v => (built_stringToString v).quiet
  varDefinition := fun _ _ _ => built_varAssignment.quiet
  unaryOperation := fun e o _ _ => quiet_unaryOp e o
  binaryOperation := fun l o r t _ => quiet_binaryOp l o r t
  -- `dsimp` first: the unifier would unfold `comparisonOp` instead, slowly
  comparison := fun l o r t _ => by dsimp only [conv]; exact quiet_comparisonOp l o r t
  logicalOperation := fun l o r _ _ => quiet_logicalOp l o r
  varEvaluation := fun _ _ _ => built_varEvaluation.quiet
  sliceInstantiation := fun vs _ => (built_sliceInstantiationOp vs).quiet
  sliceEvaluation := fun n i _ => (built_sliceEvaluationOp n i).quiet
  sliceLen := fun n _ => (built_sliceLenOp n).quiet
  stringSubscript := fun v a b _ => (built_stringSubscriptOp v a b).quiet
  stringLen := fun v _ => (built_stringLenOp v).quiet
  funcCall := fun n a r u => (built_funcCallOp n a r u).quiet
  appCall := fun cs u => (built_appCallOp cs u).quiet
  input := fun p _ => (built_inputOp p).quiet
  copy := fun d s _ g => (built_copyOp d s g).quiet
  exists_ := fun p _ => (built_existsOp p).quiet
  readFile := fun p _ => (built_readFileOp p).quiet

theorem quiet_retOp (vs : List String) : Rel Quiet (retOp vs) :=
  quiet_bind quiet_currentFunc fun _ => (Built.bind (built_storeRets _ _) fun _ => .addLine rfl).quiet

def Adds (c : Coef) {α : Type} (k : Int) (m : BM α) : Prop := ∀ s a s', m s = .ok (a, s') → mu c s' = mu c s + k

def graded (c : Coef) : Graded St where
  P := fun k m => Adds c k m
  pure := fun _ _ _ _ h => by cases h; exact (Int.add_zero _).symm
  bind := by
    intro α β j k x f hx hf s b s'' h
    obtain ⟨a, s', h1, h2⟩ := EM.bind_ok h
    rw [hf a _ _ _ h2, hx _ _ _ h1]; omega
  fail := fun _ _ _ _ _ h => nomatch h
  panic := fun _ _ _ _ _ h => nomatch h

variable (c : Coef)

theorem adds_panic {α : Type} (k : Int) (m : String) : Adds c k (Tr.panic m : BM α) := (graded c).panic k m
theorem Adds.cast {α : Type} {j k : Int} {m : BM α} (h : Adds c j m) (e : j = k) : Adds c k m := e ▸ h

variable {c}

theorem adds_pure {α : Type} {a : α} : Adds c 0 (pure a : BM α) := (graded c).pure a
theorem adds_bind {α β : Type} {j k : Int} {x : BM α} {f : α → BM β} (hx : Adds c j x) (hf : ∀ a, Adds c k (f a)) :
    Adds c (j + k) (x >>= f) := (graded c).bind x f hx hf
theorem adds_bind0 {α β : Type} {k : Int} {x : BM α} {f : α → BM β} (hx : Adds c 0 x) (hf : ∀ a, Adds c k (f a)) :
    Adds c k (x >>= f) := by have := adds_bind hx hf; rwa [Int.zero_add] at this
theorem adds_fail {α : Type} {k : Int} {m : String} : Adds c k (Tr.fail m : BM α) := (graded c).fail k m

theorem mu_step {s s' : St} {k : Int} (h : Step s s' k) : mu c s' = mu c s + c.d * k := by
  simp only [mu, h.depth, h.ifs, h.fors, h.endLabels, h.funcs, Int.mul_add]; omega

theorem Quiet.step {s s' : St} (h : Quiet s s') : Step s s' 0 := by
  obtain ⟨nc, hc, hq⟩ := h.code
  obtain ⟨ns, hs, hl⟩ := h.start
  refine ⟨?_, h.ifs, h.fors, h.endLabels, h.funcs⟩
  have e := sumD_perm hc
  have z1 := sumD_flat nc fun l hm => delta_quiet (hq l hm)
  have z2 := sumD_flat ns fun l hm => delta_quiet (startLine_quiet (hl l hm))
  simp only [depthCount, codeLines, hs, sumD_append] at e ⊢
  omega

theorem Adds.ofQuiet {α : Type} {m : BM α} (h : Rel Quiet m) : Adds c 0 m := by
  intro s a s' hr
  rw [mu_step (h s a s' hr).step, Int.mul_zero]

theorem adds_addLine (l : BLine) : Adds c (c.d * delta l) (addLine l) :=
  fun _ _ _ h => mu_step (Step.ofAddLine h)

theorem adds_addLine0 {l : BLine} (h : delta l = 0) : Adds c 0 (addLine l) :=
  Adds.cast c (adds_addLine l) (by rw [h, Int.mul_zero])

theorem adds_opn {t : String} : Adds c c.d (addLine (.opn t)) := Adds.cast c (adds_addLine (.opn t)) (Int.mul_one _)

theorem adds_close : Adds c (-c.d) (addLine .close) := Adds.cast c (adds_addLine .close) (Int.mul_neg_one _)

theorem adds_push (f : St → St) (k : Int)
    (h : ∀ s, mu c (f s) = mu c s + k) : Adds c k (Tr.modify f : BM Unit) := by
  intro s a s' hr; cases hr; exact h s

theorem adds_ifStartOp (cond : String) : Adds c (c.cI + c.d) (ifStartOp cond) := by
  refine adds_bind (adds_push _ _ fun s => ?_) fun _ => adds_opn
  simp only [mu, depthCount, List.length_cons, Int.natCast_add, Int.natCast_one, Int.mul_add]
  omega

theorem mu_pop_ifs {s : St} {t : String} {r : List String} (h : s.ifs = t :: r) :
    mu c { s with ifs := s.ifs.drop 1 } = mu c s - c.cI := by
  simp only [mu, depthCount, h, List.drop_succ_cons, List.drop_zero, List.length_cons, Int.natCast_add, Int.natCast_one, Int.mul_add]
  omega

theorem mu_pop_funcs {s : St} {t : String} {r : List String} (h : s.funcs = t :: r) :
    mu c { s with funcs := s.funcs.drop 1 } = mu c s - c.cU := by
  simp only [mu, depthCount, h, List.drop_succ_cons, List.drop_zero, List.length_cons, Int.natCast_add, Int.natCast_one, Int.mul_add]
  omega

theorem mu_pop_fors {s : St} {e t : String} {rE r : List String} (hE : s.endLabels = e :: rE) (hF : s.fors = t :: r) :
    mu c { s with endLabels := rE, fors := s.fors.drop 1 } = mu c s - c.cE - c.cF := by
  simp only [mu, depthCount, hE, hF, List.drop_succ_cons, List.drop_zero, List.length_cons, Int.natCast_add, Int.natCast_one, Int.mul_add]
  omega

theorem adds_ifEndOp : Adds c (-c.d - c.cI) ifEndOp := by
  intro s0 a s' h
  obtain ⟨l, s, h1, hk⟩ := EM.bind_ok h
  obtain ⟨rfl, rest, hi⟩ := currentIf_ok h1
  obtain ⟨s2, t2, hk⟩ := addLine_step hk
  obtain ⟨s3, t3, hk⟩ := addLine_step hk
  obtain ⟨s4, t4, hk⟩ := addLine_step hk
  cases hk
  have st := (t2.trans t3).trans t4
  dsimp only
  rw [mu_pop_ifs (st.ifs.trans hi), mu_step st]
  simp [delta]; omega

theorem adds_gotoIf {rest : BM Unit} (h : Adds c 0 rest) : Adds c 0 (do let l ← currentIf; addLine (.cgoto l); rest : BM Unit) :=
  adds_bind0 (.ofQuiet quiet_currentIf) fun _ => adds_bind0 (adds_addLine0 rfl) fun _ => h

theorem adds_elseIfStartOp (cond : String) : Adds c 0 (elseIfStartOp cond) := adds_gotoIf (adds_addLine0 rfl)

theorem adds_elseStartOp : Adds c 0 elseStartOp := adds_gotoIf (adds_addLine0 rfl)

theorem adds_forStartOp : Adds c (c.cE + c.cF) forStartOp := by
  refine Adds.cast c (adds_bind (adds_push _ (c.cE + c.cF) fun s => ?_) fun _ => adds_bind0 (.ofQuiet quiet_get) fun _ =>
    adds_bind0 (.ofQuiet quiet_currentFor) fun _ => adds_bind0 (adds_addLine0 rfl) fun _ => adds_addLine0 rfl)
      (Int.add_zero _)
  simp only [mu, depthCount, List.length_cons, Int.natCast_add, Int.natCast_one, Int.mul_add]
  omega

theorem adds_forIncrementStartOp : Adds c c.d forIncrementStartOp :=
  adds_bind0 (.ofQuiet quiet_get) fun _ => adds_opn

theorem adds_forIncrementEndOp : Adds c (-c.d) forIncrementEndOp :=
  adds_bind0 (.ofQuiet quiet_get) fun _ => Adds.cast c (adds_bind (adds_close) fun _ => adds_addLine0 rfl) (Int.add_zero _)

theorem adds_forEndOp : Adds c (-c.d - c.cE - c.cF) forEndOp := by
  intro s0 a s' h
  obtain ⟨l, s, h1, hk⟩ := EM.bind_ok h
  obtain ⟨rfl, restF, hf⟩ := currentFor_ok h1
  obtain ⟨s2, t2, hk⟩ := addLine_step hk
  obtain ⟨s3, t3, hk⟩ := addLine_step hk
  have st := t2.trans t3
  have hk : forEndTail s3.endLabels s3 = _ := hk
  cases he : s3.endLabels with
  | nil => rw [he] at hk; cases hk
  | cons e restE =>
    rw [he] at hk
    have t7 := Step.ofAddLine (show addLine _ _ = _ from hk)
    rw [mu_step t7, mu_pop_fors he (st.fors.trans hf), mu_step st]
    simp [delta]; omega

theorem adds_funcStartOp (n : String) (ps : List String) : Adds c c.cU (funcStartOp n ps) := by
  refine Adds.cast c (adds_bind (adds_push _ c.cU fun s => ?_) fun _ => adds_bind0 (adds_addLine0 rfl) fun _ =>
    adds_bind0 (adds_addLine0 rfl) fun _ => adds_bind0 (adds_addLine0 rfl) fun _ =>
      .ofQuiet (built_setParams _ _).quiet) (Int.add_zero _)
  simp only [mu, depthCount, List.length_cons, Int.natCast_add, Int.natCast_one, Int.mul_add]
  omega

theorem adds_funcEndOp : Adds c (-c.cU) funcEndOp := by
  intro s0 a s' h
  obtain ⟨n, s, h1, hk⟩ := EM.bind_ok h
  obtain ⟨rfl, rest, hf⟩ := currentFunc_ok h1
  obtain ⟨s2, t2, hk⟩ := addLine_step hk
  obtain ⟨s3, t3, hk⟩ := addLine_step hk
  obtain ⟨s4, t4, hk⟩ := addLine_step hk
  obtain ⟨s5, t5, hk⟩ := addLine_step hk
  cases hk
  have st := ((t2.trans t3).trans t4).trans t5
  dsimp only
  rw [mu_pop_funcs (st.funcs.trans hf), mu_step st]
  simp [delta]; omega

theorem adds_brkOp : Adds c 0 brkOp := by
  unfold brkOp
  refine adds_bind0 (.ofQuiet quiet_get) fun s => ?_
  unfold brkTail
  split
  · exact adds_addLine0 rfl
  · exact adds_fail

theorem adds_contOp : Adds c 0 contOp :=
  adds_bind0 (.ofQuiet quiet_currentFor) fun _ => adds_addLine0 rfl

variable (c)

theorem batch_exprOps : ExprOps (graded c).zero conv := quiet_exprOps.imp Adds.ofQuiet

/-- the grade of each structural operation (`batch_stmtOps`) -/
def weights : Weights where
  ifStart := c.cI + c.d
  ifEnd := -c.d - c.cI
  elseIfStart := 0
  elseIfEnd := 0
  elseStart := 0
  elseEnd := 0
  forStart := c.cE + c.cF
  forIncrementStart := c.d
  forIncrementEnd := -c.d
  forCondition := c.d
  forEnd := -c.d - c.cE - c.cF
  funcStart := c.cU
  funcEnd := -c.cU

theorem weights_balanced : (weights c).Balanced := by
  constructor <;> simp only [weights] <;> omega

theorem batch_stmtOps : GStmtOps (graded c) conv (weights c) where
  sliceAssignment := fun n i v d g => .ofQuiet (built_sliceAssignmentOp n i v d g).quiet
  funcStart := adds_funcStartOp
  funcEnd := adds_funcEndOp
  ret := fun vs => .ofQuiet (quiet_retOp vs)
  ifStart := adds_ifStartOp
  ifEnd := adds_ifEndOp
  elseIfStart := adds_elseIfStartOp
  elseIfEnd := adds_pure
  elseStart := adds_elseStartOp
  elseEnd := adds_pure
  forStart := adds_forStartOp
  forIncrementStart := adds_forIncrementStartOp
  forIncrementEnd := adds_forIncrementEndOp
  forCondition := fun _ => adds_opn
  forEnd := adds_forEndOp
  brk := adds_brkOp
  cont := adds_contOp
  print := fun vs => .ofQuiet (built_callEcho vs).quiet
  panic := fun v => .ofQuiet (built_panicOp v).quiet
  writeFile := fun p ct a => .ofQuiet (built_writeFileOp p ct a).quiet
  nop := adds_addLine0 rfl

theorem evalStmts_neutral (body : List Stmt) : Adds c 0 (evalStmts conv body) :=
  evalStmts_graded (graded c) conv (batch_exprOps c) (weights c) (weights_balanced c) (batch_stmtOps c) body

theorem program_measure (p : Program) (u : Unit) (s : St) (h : evalProgram conv p {} = .ok (u, s)) : mu c s = 0 := by
  have hp : Adds c 0 (evalProgram conv p) :=
    adds_bind0 (.ofQuiet built_programStart.quiet) fun _ => adds_bind0 (evalStmts_neutral c p) fun _ => adds_pure
  have := hp _ _ _ h
  simpa [mu, depthCount, sumD] using this

theorem compile_ok {p : Program} {ls : List BLine} (h : compile p = .ok ls) :
    ∃ s, evalProgram conv p {} = .ok ((), s) ∧ ls = dumpLines s := by
  unfold compile at h
  split at h
  · next u s hs => cases h; exact ⟨s, hs, rfl⟩
  · cases h
  · cases h

theorem flatten_map_reverse_perm {α : Type} (L : List (List α)) : (L.map List.reverse).flatten.Perm L.flatten := by
  induction L with
  | nil => exact .refl _
  | cons a rest ih => exact (List.reverse_perm a).append ih

theorem dumpLines_perm (s : St) :
    (dumpLines s).Perm (s.startCode ++ (helperLines s ++ (codeLines s ++ [.label "end", .raw "endlocal & exit /B %_e%"]))) := by
  simp only [dumpLines, codeLines, List.append_assoc]
  exact (List.reverse_perm _).append (.append_left _ ((flatten_map_reverse_perm _).append ((List.reverse_perm _).append_right _)))

theorem sumD_helper (t l : String) (code : List BLine) : sumD (helper t l code) = sumD code := by
  simp [helper, sumD_append, sumD_cons, sumD_nil, delta]

theorem sumD_helperLines (s : St) : sumD (helperLines s) = 0 := by
  have e : ∀ (b : Bool) (t l : String) (code : List BLine), sumD code = 0 → sumD (if b then helper t l code else []) = 0 := by
    intro b t l code h; cases b
    · rfl
    · rw [if_pos rfl, sumD_helper, h]
  simp (disch := decide) only [helperLines, sumD_append, e, Int.add_zero]

end Tsh.Batch
