/-
  Calls agree with the declared signatures, in statements: the signature pass as an instance of the statement walk; the
  environment is the list `F` of the signatures declared so far (a function is not known inside its own body).
-/
import TshVerif.Lemmas.ParserSigExpr
import TshVerif.Lemmas.ParserStmtRuns
namespace Tsh.Parser
open Tsh Tsh.Tr Tsh.LexTables

def sigSP (F : List PT.Sig) (st : Stmt) : Prop := PT.sigS F st = true
def sigSsP (F : List PT.Sig) (ss : List Stmt) : Prop := PT.sigSs F ss = true

theorem sigSsP.out {F : List PT.Sig} {ss : List Stmt} (h : sigSsP F ss) : PT.sigSs F ss = true := h
theorem sigSP.out {F : List PT.Sig} {s : Stmt} (h : sigSP F s) : PT.sigS F s = true := h

theorem declare_sub (F : List PT.Sig) (st : Stmt) : ∀ x ∈ F, x ∈ PT.declare F st := by
  intro x hx
  cases st <;> simp [PT.declare, hx]

theorem declareAll_snoc (F : List PT.Sig) (acc : List Stmt) (st : Stmt) :
    PT.declareAll F (acc ++ [st]) = PT.declare (PT.declareAll F acc) st := by
  simp [PT.declareAll, List.foldl_append]

theorem sigSs_append_same {a b : List Stmt} : ∀ {F : List PT.Sig}, sigSsP F a → sigSsP (PT.declareAll F a) b → sigSsP F (a ++ b) := by
  induction a with
  | nil => intro F _ hb; exact hb
  | cons x xs ih =>
    intro F ha hb
    simp only [sigSsP, PT.sigSs, Bool.and_eq_true] at ha
    simp only [sigSsP, List.cons_append, PT.sigSs, Bool.and_eq_true]
    exact ⟨ha.1, ih ha.2 hb⟩

theorem sigSs_snoc {acc : List Stmt} {st : Stmt} {F : List PT.Sig} (ha : sigSsP F acc) (hs : sigSP (PT.declareAll F acc) st) :
    sigSsP F (acc ++ [st]) :=
  sigSs_append_same ha (by simp [sigSsP, PT.sigSs, show PT.sigS _ st = true from hs])

section
variable {pfx : String} {g : Bool} {c c' : Ctx}

theorem FuncsIn.addVars {F : List PT.Sig} {vs : List Var} (h : FuncsIn F c)
    (he : c.addVars pfx g vs = some c') : FuncsIn F c' := by
  obtain ⟨_, rfl, -⟩ := addVars_ctx he
  exact h

theorem FuncsIn.enters {F : List PT.Sig} {st : Stmt} (h : FuncsIn F c) (he : Enters st c c') : FuncsIn (PT.declare F st) c' := by
  obtain ⟨_, funcs, rfl, -, hf⟩ := he
  refine fun x hx => (hf x hx).elim (fun hx => declare_sub _ _ _ (h x hx)) ?_
  rintro ⟨n, p, r, ps, b, rfl, e'⟩
  simp [PT.declare, sigOf, e']

end

theorem sigEl_snoc {F : List PT.Sig} {a : List (Expr × List Stmt)} {c : Expr} {b : List Stmt} (ha : PT.sigEl F a = true) (hc : sigP F c)
    (hb : sigSsP F b) : PT.sigEl F (a ++ [(c, b)]) = true := by
  induction a with
  | nil => simp [PT.sigEl, hc.out, hb.out]
  | cons x xs ih =>
    obtain ⟨e, body⟩ := x
    simp only [PT.sigEl, Bool.and_eq_true] at ha
    simp only [List.cons_append, PT.sigEl, Bool.and_eq_true]
    exact ⟨ha.1, ih ha.2⟩

@[reducible] def sigPass : Pass (List PT.Sig) where
  In := FuncsIn
  okE := sigP
  okEs := sigsP
  okArgs := argAcc
  okC := sigP
  okTag := sigP
  okS := sigSP
  okSs := sigSsP
  okEl F l := PT.sigEl F l = true
  decl := PT.declare
  push F _ := F
  pushOK _ := True

theorem sigSRule : StmtRule sigPass where
  expr := sigRule
  push h _ := h
  pushBranch _ := trivial
  register h _ he := h.enters he
  nilS := rfl
  snocS _ := sigSs_snoc
  nilEl := rfl
  snocEl _ := sigEl_snoc
  ifS _ hc hb he hl := band_true (band_true (band_true hc hb) he) hl
  cond h _ := h
  condLit := rfl
  tag h _ := h
  tagLit := rfl
  caseCond ht he _ := band_true ht he
  assign _ _ h _ _ := h
  assignCall _ _ h _ := h
  compound _ _ he _ _ := band_true (band_true rfl he) rfl
  sliceAssign _ _ _ hi _ hx _ := band_true hi hx
  incDec _ _ _ _ := rfl
  ret _ _ h := h
  brk _ _ := rfl
  cont _ _ := rfl
  print h _ := h
  write hp hd _ _ ha := band_true (band_true hp hd) (ha.elim (fun e => e ▸ rfl) fun h => h.1)
  panicS h _ := h
  exprS h _ := h

variable {fuel : Nat}

theorem sig_func (ih : BlockIH sigPass fuel) (F : List PT.Sig) (ctx : Ctx) (hc : FuncsIn F ctx) :
    Post (evalFunctionDefinition (fuel + 1) ctx) (sigSP F) :=
  (evalFunctionDefinition_run (anyWalk fuel) ctx).mono fun _ h => by
    cases h with
    | mk _ _ _ _ h2 hbody _ =>
    exact (hbody.elim (ih.block F _ _ _
      (FuncsIn.addVars (c := { ctx with vars := ctx.vars.filter fun e => e.2.global }) hc h2) trivial).ok).1

theorem sig_for (ih : BlockIH sigPass fuel) (F : List PT.Sig) (ctx : Ctx) (hc : FuncsIn F ctx) :
    Post (evalFor (fuel + 1) ctx) (sigSP F) :=
  (evalFor_run (anyWalk fuel) ctx).mono fun st h => by
    have hblock : ∀ {c b}, FuncsIn F c → Ran (evalBlock fuel (fun _ _ => true) c .for_) b → sigSsP F b := fun hc h =>
      (h.elim (ih.block F _ _ _ hc trivial).ok).1
    cases h with
    | @range _ _ _ el _ _ _ _ _ hit hel h1 hpre hbody =>
      have hit := hit.elim ((sigIH_all F fuel).expression ctx hc)
      have hel : sigP F el := by rcases hel with ⟨rfl, _⟩ | ⟨rfl, _⟩ <;> simp [sigP, PT.sigE, hit.out]
      have hc1 := hc.addVars h1
      rcases hpre with ⟨rfl, rfl⟩ | ⟨v, -, h2, rfl⟩
      · have hb := hblock hc1 hbody
        simp [sigSP, PT.sigS, PT.sigO, PT.sigEs, PT.sigE, incDecStmt, hit.out, hb.out]
      · have hb := hblock (hc1.addVars h2) hbody
        simp [sigSP, PT.sigS, PT.sigO, PT.sigSs, PT.sigEs, PT.sigE, PT.declare, incDecStmt, hit.out, hel.out, hb.out]
    | @classic _ ctx1 init incr cond _ hh _ hbody =>
      have ⟨hc1, hinit⟩ : FuncsIn F ctx1 ∧ PT.sigO F init = true := by
        rcases hh.init with ⟨rfl, rfl⟩ | ⟨st, rfl, hst, hs, hr⟩
        · exact ⟨hc, rfl⟩
        · have : PT.declare F st = F := by cases st <;> first | rfl | cases hs
          exact ⟨this ▸ hc.enters (registerDefs_enters hr), hst.elim (ih.statement F ctx hc).ok⟩
      have hcond : sigP F cond := by
        rcases hh.cond with rfl | h
        · rfl
        · exact h.elim ((sigIH_all F fuel).expression _ hc1)
      have hincr : PT.sigO F incr = true := by
        cases incr with
        | none => rfl
        | some st => exact (hh.incr st rfl).1.elim (ih.statement F _ hc1).ok
      simp [sigSP, PT.sigS, hinit, hcond.out, hincr, (hblock hc1 hbody).out]

theorem sigWalk : ∀ fuel, BlockIH sigPass fuel :=
  stmtWalk sigSRule (w_def sigSRule (fun h => h) (fun h => h) rfl) (fun _ => sig_func) fun _ => sig_for

structure SigSIH (fuel : Nat) : Prop where
  blockContent : ∀ F terms cb ctx scope, FuncsIn F ctx → PostOk (evalBlockContent fuel terms cb ctx scope) (sigSsP F)
  blockLoop : ∀ F terms cb ctx acc, FuncsIn (PT.declareAll F acc) ctx → sigSsP F acc → PostOk (evalBlockLoop fuel terms cb ctx acc) (sigSsP F)
  block : ∀ F cb ctx scope, FuncsIn F ctx → PostOk (evalBlock fuel cb ctx scope) (sigSsP F)
  functionDefinition : ∀ F ctx, FuncsIn F ctx → PostOk (evalFunctionDefinition fuel ctx) (sigSP F)
  if_ : ∀ F ctx, FuncsIn F ctx → PostOk (evalIf fuel ctx) (sigSP F)
  ifRest : ∀ F ctx c body elifs els, FuncsIn F ctx → sigP F c → sigSsP F body → PT.sigEl F elifs = true → sigSsP F els →
    PostOk (evalIfRest fuel ctx c body elifs els) (sigSP F)
  switch : ∀ F ctx, FuncsIn F ctx → PostOk (evalSwitch fuel ctx) (sigSP F)
  cases : ∀ F ctx tag first elifs dflt, FuncsIn F ctx → sigP F tag → (∀ c b, first = some (c, b) → sigP F c ∧ sigSsP F b) →
    PT.sigEl F elifs = true → (∀ d, dflt = some d → sigSsP F d) → PostOk (evalCases fuel ctx tag first elifs dflt) (sigSP F)
  for_ : ∀ F ctx, FuncsIn F ctx → PostOk (evalFor fuel ctx) (sigSP F)
  statement : ∀ F ctx, FuncsIn F ctx → PostOk (evalStatement fuel ctx) (sigSP F)

theorem sigSIH_all (fuel : Nat) : SigSIH fuel where
  blockContent F terms cb ctx scope hc := PostOk.mono ((sigWalk fuel).blockContent F terms cb ctx scope hc trivial).ok fun _ h => h.1
  blockLoop F terms cb ctx acc hc ha := PostOk.mono ((sigWalk fuel).blockLoop F terms cb ctx acc hc ha).ok fun _ h => h.1
  block F cb ctx scope hc := PostOk.mono ((sigWalk fuel).block F cb ctx scope hc trivial).ok fun _ h => h.1
  functionDefinition F ctx hc := ((sigWalk fuel).functionDefinition F ctx hc).ok
  if_ F ctx hc := ((sigWalk fuel).if_ F ctx hc).ok
  ifRest F ctx c body elifs els hc h1 h2 h3 h4 := ((sigWalk fuel).ifRest F ctx c body elifs els hc h1 h2 h3 h4).ok
  switch F ctx hc := ((sigWalk fuel).switch F ctx hc).ok
  cases F ctx tag first elifs dflt hc h1 h2 h3 h4 := ((sigWalk fuel).cases F ctx tag first elifs dflt hc h1 h2 h3 h4).ok
  for_ F ctx hc := ((sigWalk fuel).for_ F ctx hc).ok
  statement F ctx hc := ((sigWalk fuel).statement F ctx hc).ok

end Tsh.Parser
