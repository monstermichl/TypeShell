/-
  Typing and placement of whole files: both hold of each statement (`fileP`), which survives sublist and append: `fileGood_of`.
-/
import TshVerif.Lemmas.ParserTypedStmt
import TshVerif.Lemmas.ParserPlaced
import TshVerif.Lemmas.ParserFiles
namespace Tsh.Parser
open Tsh Tsh.Tr Tsh.LexTables

def topCtx : SCtx := { brkAnywhere := true }

/-- every statement is typed and placed as a statement of the top level -/
def fileP (ss : List Stmt) : Prop := ∀ st ∈ ss, stmtP st ∧ Stmt.placed topCtx st = true

theorem fileP.stmts {ss : List Stmt} (h : fileP ss) : stmtsP ss := stmtsP_iff.mpr fun s hs => (h s hs).1
theorem fileP.placed {ss : List Stmt} (h : fileP ss) : placedStmts topCtx ss = true := placedStmts_iff.mpr fun s hs => (h s hs).2

theorem fileP.sub {a b : List Stmt} (h : fileP a) (hs : ∀ st ∈ b, st ∈ a) : fileP b := fun st hb => h st (hs st hb)

theorem fileP.append {a b : List Stmt} (ha : fileP a) (hb : fileP b) : fileP (a ++ b) :=
  fun st hs => (List.mem_append.mp hs).elim (ha st) (hb st)

def TopOK (c : Ctx) : Prop := CtxOK c ∧ c.scopes = []

theorem registerImported_top {ctx : Ctx} {stmts : List Stmt} (hc : TopOK ctx) (hs : fileP stmts) :
    TopOK (registerImported ctx stmts).1 ∧ fileP (registerImported ctx stmts).2 :=
  have h := registerImported_sub ctx stmts
  ⟨⟨registerImported_in (T := typedPass) (e0 := ()) hc.1 fun _ _ _ st hst h he => h.enters (hs st hst).1 he, h.1.trans hc.2⟩, hs.sub h.2⟩

theorem cleanProgram_file {used : List (String × List String)} {body b : List Stmt} (h : cleanProgram used body = some b)
    (hb : fileP body) : fileP b := by
  obtain ⟨keep, rfl, -⟩ := cleanProgram_of_some h
  exact hb.sub fun st hs => (List.mem_filter.mp hs).1

theorem evalImports_top {depth : Nat} (hd : FileGood fileP depth) (fs : FileSys) (path : String)
    (importing : List String) (fuel : Nat) (s0 : PSt) :
    Good (evalImports depth fs path importing fuel {} s0) (fun r => TopOK r.1 ∧ fileP r.2) :=
  evalImports_inv (I := fun c a => TopOK c ∧ fileP a) fs path importing fuel {} s0 (fun abs => hd fs abs true _)
    (fun _ _ _ _ h hp => ⟨⟨h.1.1.imports _, h.1.2⟩, h.2.append hp⟩) ⟨⟨CtxOK.empty, rfl⟩, nofun⟩ ⟨⟨CtxOK.empty, rfl⟩, nofun⟩
    fun _ _ h => registerImported_top h.1 h.2

theorem evalProgram_file {depth : Nat} (hd : FileGood fileP depth) (fs : FileSys) (path : String)
    (importing : List String) (fuel : Nat) (s0 : PSt) :
    Good (evalProgram depth fs path importing fuel s0) fileP := by
  refine evalProgram_good (evalImports_top hd fs path importing fuel s0) ?_
  rintro ctx imported pfx ⟨⟨hc, hsc⟩, himp⟩
  dsimp only at hc hsc himp
  have hc' := hc.imports (assocSet ctx.imports pfx pfx)
  refine (((stmtIH_all fuel).blockContent [TT_EOF] (fun _ _ => true) _ .program hc').and
    ((placeIH_all fuel).blockContent [TT_EOF] (fun _ _ => true) _ .program hc' (.inl ⟨rfl, hsc⟩))).mono fun own ⟨h2, h3⟩ => ?_
  have : sc (Ctx.push { ctx with imports := assocSet ctx.imports pfx pfx } .program) = topCtx := by
    simp [sc, Ctx.push, Ctx.findScope, hsc, topCtx]
  rw [placedSs, this] at h3
  exact himp.append fun st hs => ⟨stmtsP_iff.mp h2.1 st hs, placedStmts_iff.mp h3 st hs⟩

theorem fileGood_all : ∀ depth, FileGood fileP depth := fileGood_of evalProgram_file cleanProgram_file

theorem parse_good (fs : FileSys) (main : String) : Good (parse fs main) (fun p => fileP p.body) :=
  parse_eq_parseFile fs main ▸ fileGood_all _ fs main false []

end Tsh.Parser
