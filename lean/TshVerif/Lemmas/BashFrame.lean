/-
  What the operations of the bash converter outside the control constructs do to its state: they append only
  simple lines and leave the loop / function stacks and counters alone (`Frame`), and every line that calls a
  helper routine comes with the routine's flag set (`HStep`).  `Ran n` is both, with at least `n` lines appended;
  `Emits n m`: every successful run of `m` is a `Ran n`.  One `emits_<op>` per operation; by the generic walk every
  expression is `Emits 0`.
-/
import TshVerif.Model.ConvBash
import TshVerif.Lemmas.Walk
namespace Tsh.Bash
open Tsh Tsh.Tr

/-- complete simple commands: no compound-command keyword of their own -/
def Line.isSimple : Line → Bool
  | .funcStart _ | .funcEnd | .ifStart _ _ | .else_ | .fi | .forFlagInit _ | .whileStart | .incrStart _
  | .incrFlagSet _ | .done => false
  | _ => true

structure Frame (s s' : St) : Prop where
  fors : s'.fors = s.fors
  funcs : s'.funcs = s.funcs
  forCounter : s'.forCounter = s.forCounter
  funcCounter : s'.funcCounter = s.funcCounter
  startCode : s'.startCode = s.startCode
  code : ∃ new, s'.code = new ++ s.code ∧ ∀ l ∈ new, l.isSimple = true

theorem Frame.refl (s : St) : Frame s s := ⟨rfl, rfl, rfl, rfl, rfl, [], rfl, fun _ h => nomatch h⟩

theorem Frame.trans {a b c : St} (h1 : Frame a b) (h2 : Frame b c) : Frame a c := by
  obtain ⟨n1, hc1, hs1⟩ := h1.code
  obtain ⟨n2, hc2, hs2⟩ := h2.code
  exact ⟨h2.fors.trans h1.fors, h2.funcs.trans h1.funcs, h2.forCounter.trans h1.forCounter,
    h2.funcCounter.trans h1.funcCounter, h2.startCode.trans h1.startCode,
    n2 ++ n1, by rw [hc2, hc1, List.append_assoc], fun l hl => (List.mem_append.mp hl).elim (hs2 l) (hs1 l)⟩

def Line.needsSah : Line → Bool | .sah _ _ _ _ | .sahInit _ _ _ => true | _ => false
def Line.needsSch : Line → Bool | .sch _ _ => true | _ => false
def Line.needsSsh : Line → Bool | .ssh _ _ _ => true | _ => false

def Line.needsNone (l : Line) : Bool := !l.needsSah && !l.needsSch && !l.needsSsh

def Line.flagged (l : Line) (s : St) : Prop :=
  (l.needsSah = true → s.sahReq = true) ∧ (l.needsSch = true → s.schReq = true) ∧ (l.needsSsh = true → s.sshReq = true)

theorem Line.flagged_of_needsNone {l : Line} (h : l.needsNone = true) (s : St) : l.flagged s := by
  simp only [Line.needsNone, Bool.and_eq_true, Bool.not_eq_true'] at h
  simp [Line.flagged, h.1.1, h.1.2, h.2]

structure HStep (s s' : St) : Prop where
  sah : s.sahReq = true → s'.sahReq = true
  sch : s.schReq = true → s'.schReq = true
  ssh : s.sshReq = true → s'.sshReq = true
  start : s'.startCode = s.startCode
  code : ∃ new, s'.code = new ++ s.code ∧ ∀ l ∈ new, l.flagged s'

theorem HStep.refl (s : St) : HStep s s := ⟨id, id, id, rfl, [], rfl, fun _ h => nomatch h⟩

theorem HStep.trans {a b c : St} (h1 : HStep a b) (h2 : HStep b c) : HStep a c := by
  obtain ⟨n1, hc1, hs1⟩ := h1.code
  obtain ⟨n2, hc2, hs2⟩ := h2.code
  refine ⟨h2.sah ∘ h1.sah, h2.sch ∘ h1.sch, h2.ssh ∘ h1.ssh, h2.start.trans h1.start, n2 ++ n1, by rw [hc2, hc1, List.append_assoc], ?_⟩
  intro l hl
  refine (List.mem_append.mp hl).elim (hs2 l) fun hl => ?_
  obtain ⟨x, y, z⟩ := hs1 l hl
  exact ⟨h2.sah ∘ x, h2.sch ∘ y, h2.ssh ∘ z⟩

structure Ran (n : Nat) (s s' : St) : Prop where
  frame : Frame s s'
  helpers : HStep s s'
  lines : s.code.length + n ≤ s'.code.length

theorem Ran.refl (s : St) : Ran 0 s s := ⟨.refl s, .refl s, Nat.le_refl _⟩

theorem Ran.trans {j k : Nat} {a b c : St} (h1 : Ran j a b) (h2 : Ran k b c) : Ran (j + k) a c :=
  ⟨h1.frame.trans h2.frame, h1.helpers.trans h2.helpers, by have := h1.lines; have := h2.lines; omega⟩

theorem Ran.le {n k : Nat} {s s' : St} (h : Ran n s s') (hk : k ≤ n) : Ran k s s' :=
  ⟨h.frame, h.helpers, Nat.le_trans (Nat.add_le_add_left hk _) h.lines⟩

theorem Ran.of_lines {s s' : St} (new : List Line) (hc : s'.code = new ++ s.code)
    (hk : (s'.startCode, s'.fors, s'.funcs, s'.forCounter, s'.funcCounter) = (s.startCode, s.fors, s.funcs, s.forCounter, s.funcCounter))
    (hf : (s.sahReq = true → s'.sahReq = true) ∧ (s.schReq = true → s'.schReq = true) ∧ (s.sshReq = true → s'.sshReq = true))
    (hn : ∀ l ∈ new, l.isSimple = true ∧ l.flagged s') : Ran new.length s s' := by
  simp only [Prod.mk.injEq] at hk
  obtain ⟨k1, k2, k3, k4, k5⟩ := hk
  exact ⟨⟨k2, k3, k4, k5, k1, new, hc, fun l hl => (hn l hl).1⟩, ⟨hf.1, hf.2.1, hf.2.2, k1, new, hc, fun l hl => (hn l hl).2⟩,
    by rw [hc, List.length_append, Nat.add_comm]; exact Nat.le_refl _⟩

/-- `n` is a lower bound: 1 for the operations that can be all a statement emits (a statement is a non-empty block), else 0 -/
def Emits (n : Nat) {α : Type} (m : BM α) : Prop := Rel (Ran n) m

theorem Emits.zero {α : Type} {n : Nat} {m : BM α} (h : Emits n m) : Emits 0 m :=
  h.mono fun r => r.le (Nat.zero_le n)

theorem emits_pure {α : Type} (a : α) : Emits 0 (pure a : BM α) := Rel.pure Ran.refl a

theorem Emits.bindL {α β : Type} {n k : Nat} {x : BM α} {f : α → BM β} (hx : Emits n x) (hf : ∀ a, Emits k (f a)) :
    Emits n (x >>= f) := by
  intro s b s'' h
  obtain ⟨a, s', h1, h2⟩ := EM.bind_ok h
  exact ((hx _ _ _ h1).trans (hf a _ _ _ h2)).le (Nat.le_add_right n k)

theorem Emits.bindR {α β : Type} {n j : Nat} {x : BM α} {f : α → BM β} (hx : Emits j x) (hf : ∀ a, Emits n (f a)) :
    Emits n (x >>= f) := by
  intro s b s'' h
  obtain ⟨a, s', h1, h2⟩ := EM.bind_ok h
  exact ((hx _ _ _ h1).trans (hf a _ _ _ h2)).le (Nat.le_add_left n j)

def quietClosed : Closed St := Closed.ofRel (Ran 0) Ran.refl Ran.trans

theorem emits_get : Emits 0 (Tr.get : BM St) := Rel.get Ran.refl

theorem emits_nextHelperVar : Emits 0 nextHelperVar := by
  intro s a s' h; cases h
  exact .of_lines [] rfl rfl ⟨id, id, id⟩ (fun _ h => nomatch h)

theorem emits_addLine (l : Line) (hs : l.isSimple = true) (hp : l.needsNone = true) : Emits 1 (addLine l) := by
  intro s a s' h; cases h
  refine .of_lines [l] rfl rfl ⟨id, id, id⟩ fun x hx => ?_
  cases List.mem_singleton.mp hx
  exact ⟨hs, Line.flagged_of_needsNone hp _⟩

theorem emits_varAssignment (n v : String) (g : Bool) : Emits 1 (varAssignment n v g) :=
  emits_get.bindR fun _ => emits_addLine _ rfl rfl

theorem emits_varAssignSliceLen (n v : String) (g : Bool) : Emits 1 (varAssignSliceLen n v g) :=
  emits_get.bindR fun _ => emits_addLine _ rfl rfl

theorem emits_varAssignStrLen (n : String) (g : Bool) : Emits 1 (varAssignStrLen n g) :=
  emits_get.bindR fun _ => emits_addLine _ rfl rfl

theorem emits_varAssignArith (n l o r : String) (g : Bool) : Emits 1 (varAssignArith n l o r g) :=
  emits_get.bindR fun _ => emits_addLine _ rfl rfl

theorem emits_varAssignTest (n : String) (t : Test) (a b : String) (g : Bool) : Emits 1 (varAssignTest n t a b g) :=
  emits_get.bindR fun _ => emits_addLine _ rfl rfl

theorem emits_varEvaluation (n : String) (g : Bool) : Emits 0 (varEvaluation n g) :=
  emits_get.bindR fun _ => emits_pure _

theorem Emits.thenEval {n : Nat} {x : BM Unit} (hx : Emits n x) (h : String) : Emits n (do x; varEvaluation h false : BM String) :=
  hx.bindL fun _ => emits_varEvaluation _ _

theorem emits_unaryOp (e o : String) : Emits 0 (unaryOp e o) := by
  unfold unaryOp
  refine emits_nextHelperVar.bindR fun h => ?_
  split
  · exact ((emits_varAssignTest _ _ _ _ _).thenEval h).zero
  · exact Rel.fail _

theorem emits_binaryOp (l o r : String) (t : ValueType) : Emits 0 (binaryOp l o r t) := by
  unfold binaryOp notAllowedBin
  refine emits_nextHelperVar.bindR fun h => ?_
  split
  · exact Rel.fail _
  · split
    · split
      · exact ((emits_varAssignArith _ _ _ _ _).thenEval h).zero
      · exact Rel.fail _
    · split
      · exact ((emits_varAssignment _ _ _).thenEval h).zero
      · exact Rel.fail _
    · exact Rel.fail _

theorem emits_comparisonOpWith (os l o r : String) (t : ValueType) : Emits 0 (comparisonOpWith os l o r t) := by
  unfold comparisonOpWith
  split
  · exact Rel.fail _
  · exact emits_nextHelperVar.bindR fun h => ((emits_varAssignTest _ _ _ _ _).thenEval h).zero

theorem emits_logicalOp (l o r : String) : Emits 0 (logicalOp l o r) := by
  unfold logicalOp
  split
  · exact emits_nextHelperVar.bindR fun h => ((emits_varAssignTest _ _ _ _ _).thenEval h).zero
  · exact Rel.fail _

theorem Ran.sahLine (s : St) (l : Line) (hs : l.isSimple = true) (h1 : l.needsSch = false) (h2 : l.needsSsh = false) :
    Ran 1 s { s with sahReq := true, code := l :: s.code } :=
  .of_lines [l] rfl rfl ⟨fun _ => rfl, id, id⟩ fun x hx => by
    cases List.mem_singleton.mp hx; exact ⟨hs, fun _ => rfl, by simp [h1], by simp [h2]⟩

theorem emits_sahLine (l : Line) (hs : l.isSimple = true) (h1 : l.needsSch = false) (h2 : l.needsSsh = false)
    {β : Type} {n : Nat} {k : BM β} (hk : Emits n k) :
    Emits n (do Tr.modify (fun s => { s with sahReq := true }); addLine l; k : BM β) := by
  intro s a s' h
  have := hk _ _ _ (show k { s with sahReq := true, code := l :: s.code } = _ from h)
  exact ((Ran.sahLine s l hs h1 h2).trans this).le (Nat.le_add_left n 1)

theorem emits_sahInits (arr : String) : ∀ (vs : List String) (i : Nat), Emits 0 (sahInits arr vs i)
  | [], _ => emits_pure _
  | _ :: rest, i => emits_sahLine _ rfl rfl rfl (emits_sahInits arr rest (i + 1))

theorem emits_sliceInstantiation (vs : List String) : Emits 0 (sliceInstantiation vs) :=
  emits_get.bindR fun _ => (emits_addLine _ rfl rfl).zero.bindR fun _ => emits_nextHelperVar.bindR fun _ =>
    (emits_varAssignment _ _ _).zero.bindR fun _ => emits_get.bindR fun _ => (emits_sahInits _ _ _).bindR fun _ => emits_pure _

theorem emits_sliceEvaluation (n i : String) : Emits 0 (sliceEvaluation n i) :=
  emits_nextHelperVar.bindR fun _ => emits_get.bindR fun _ => ((emits_addLine _ rfl rfl).bindL fun _ => emits_varEvaluation _ _).zero

theorem emits_sliceLen (n : String) : Emits 0 (sliceLen n) :=
  emits_nextHelperVar.bindR fun h => ((emits_varAssignSliceLen _ _ _).thenEval h).zero

/-- the `_ssh` call is added before its flag is raised: shown on the final state -/
theorem emits_stringSubscript (v a b : String) : Emits 0 (stringSubscript v a b) := by
  intro s r s' h; cases h
  refine Ran.le (.of_lines [_, _] rfl rfl ⟨id, id, fun _ => rfl⟩ fun l hl => ?_) (Nat.zero_le 2)
  simp only [List.mem_cons, List.not_mem_nil, or_false] at hl
  rcases hl with rfl | rfl <;> exact ⟨rfl, by simp [Line.flagged, Line.needsSah, Line.needsSch, Line.needsSsh]⟩

theorem emits_stringLen (v : String) : Emits 0 (stringLen v) :=
  emits_nextHelperVar.bindR fun h => (emits_varAssignment _ _ _).zero.bindR fun _ => ((emits_varAssignStrLen _ _).thenEval h).zero

theorem emits_copyRets : ∀ (n i : Nat), Emits 0 (copyRets n i)
  | 0, _ => emits_pure _
  | n + 1, i => emits_nextHelperVar.bindR fun _ => emits_get.bindR fun _ => (emits_varAssignment _ _ _).zero.bindR fun _ =>
      (emits_varEvaluation _ _).bindR fun _ => (emits_copyRets n (i + 1)).bindR fun _ => emits_pure _

theorem emits_funcCall (n : String) (a : List String) (r : List ValueType) (u : Bool) : Emits 1 (funcCall n a r u) := by
  unfold funcCall
  refine (emits_addLine _ rfl rfl).bindL fun _ => Emits.bindR (j := 0) ?_ fun _ => emits_pure _
  split
  · exact emits_copyRets _ _
  · exact emits_pure _

theorem emits_appCallWith (cs : String) : ∀ (u : Bool), Emits (if u then 0 else 1) (appCallWith cs u)
  | true => emits_nextHelperVar.bindR fun _ => emits_nextHelperVar.bindR fun _ => (emits_varAssignment _ _ _).zero.bindR fun _ =>
      (emits_varEvaluation _ _).bindR fun _ => (emits_varAssignment _ _ _).zero.bindR fun _ => emits_get.bindR fun _ => emits_pure _
  | false => (emits_addLine _ rfl rfl).bindL fun _ => emits_pure _

theorem emits_inputOp (p : String) : Emits 1 (inputOp p) :=
  emits_nextHelperVar.bindR fun _ => emits_get.bindR fun _ => (emits_addLine _ rfl rfl).bindL fun _ => emits_varEvaluation _ _

/-- as for `_ssh`: the call comes before its flags -/
theorem emits_copyOp (d sr : String) (g : Bool) : Emits 1 (copyOp d sr g) := by
  intro s r s' h; cases h
  refine Ran.le (.of_lines [_, _] rfl rfl ⟨fun _ => rfl, fun _ => rfl, id⟩ fun l hl => ?_) (Nat.le_succ 1)
  simp only [List.mem_cons, List.not_mem_nil, or_false] at hl
  rcases hl with rfl | rfl <;> exact ⟨rfl, by simp [Line.flagged, Line.needsSah, Line.needsSch, Line.needsSsh]⟩

theorem emits_existsOp (p : String) : Emits 0 (existsOp p) :=
  emits_nextHelperVar.bindR fun h => ((emits_varAssignTest _ _ _ _ _).thenEval h).zero

theorem emits_readFile (p : String) : Emits 1 (readFile p) :=
  emits_nextHelperVar.bindR fun h => (emits_varAssignment _ _ _).thenEval h

theorem quiet_exprOps : ExprOps quietClosed conv where
  stringToString := fun _ => emits_pure _
  varDefinition := fun n v g => (emits_varAssignment n v g).zero
  unaryOperation := fun e o _ _ => emits_unaryOp e o
  binaryOperation := fun l o r t _ => emits_binaryOp l o r t
  -- `dsimp` first: the unifier would unfold `comparisonOpWith` instead, slowly
  comparison := fun l o r t _ => by dsimp only [conv]; exact emits_comparisonOpWith _ l o r t
  logicalOperation := fun l o r _ _ => emits_logicalOp l o r
  varEvaluation := fun n _ g => emits_varEvaluation n g
  sliceInstantiation := fun vs _ => emits_sliceInstantiation vs
  sliceEvaluation := fun n i _ => emits_sliceEvaluation n i
  sliceLen := fun n _ => emits_sliceLen n
  stringSubscript := fun v a b _ => emits_stringSubscript v a b
  stringLen := fun v _ => emits_stringLen v
  funcCall := fun n a r u => (emits_funcCall n a r u).zero
  appCall := fun cs u => (emits_appCallWith _ u).zero
  input := fun p _ => (emits_inputOp p).zero
  copy := fun d s _ g => (emits_copyOp d s g).zero
  exists_ := fun p _ => emits_existsOp p
  readFile := fun p _ => (emits_readFile p).zero

theorem emits_storeRets : ∀ (vs : List String) (i : Nat), Emits 0 (storeRets vs i)
  | [], _ => emits_pure _
  | _ :: rest, i => (emits_varAssignment _ _ _).zero.bindR fun _ => emits_storeRets rest (i + 1)

theorem emits_localParams : ∀ (ps : List String) (i : Nat), Emits 0 (localParams ps i)
  | [], _ => emits_pure _
  | _ :: rest, i => emits_get.bindR fun _ => (emits_addLine _ rfl rfl).zero.bindR fun _ => emits_localParams rest (i + 1)

theorem emits_sliceAssignment (n i v d : String) (g : Bool) : Emits 1 (conv.sliceAssignment n i v d g) := by
  intro s a s' h; cases h
  exact .sahLine s _ rfl rfl rfl

theorem emits_ret (vs : List String) : Emits 1 (conv.ret vs) :=
  (emits_storeRets vs 0).bindR fun _ => emits_addLine .ret rfl rfl

theorem emits_panicOp (v : String) : Emits 1 (conv.panic v) :=
  (emits_addLine (.echo v) rfl rfl).bindL fun _ => emits_addLine .exit1 rfl rfl

structure Simple {α : Type} (m : BM α) : Prop where
  frame : ∀ s a s', m s = .ok (a, s') → Frame s s'

theorem simple_modify_req (f : St → St)
    (hf : ∀ s, (f s).fors = s.fors ∧ (f s).funcs = s.funcs ∧ (f s).forCounter = s.forCounter ∧
      (f s).funcCounter = s.funcCounter ∧ (f s).startCode = s.startCode ∧ (f s).code = s.code) : Simple (Tr.modify f : BM Unit) := by
  constructor
  intro s a s' h; cases h
  obtain ⟨h1, h2, h3, h4, h5, h6⟩ := hf s
  exact ⟨h1, h2, h3, h4, h5, [], h6, fun _ h => nomatch h⟩

theorem evalExpr_quiet (e : Expr) (used : Bool) : Emits 0 (evalExpr conv e used) :=
  evalExpr_closed quietClosed conv quiet_exprOps e used

theorem evalArgs_quiet (es : List Expr) : Emits 0 (evalArgs conv es) :=
  evalArgs_closed quietClosed conv quiet_exprOps es

theorem evalAll_quiet (es : List Expr) : Emits 0 (evalAll conv es) :=
  evalAll_closed quietClosed conv quiet_exprOps es

end Tsh.Bash
