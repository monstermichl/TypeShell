/-
  The expression theorem for the Batch target: what each operation's line does (`*_sem`), with that `batchOps`, and `exprB_full`
  is the generic theorem at `batchT` and the 32-bit source semantics `src32`.
-/
import TshVerif.Lemmas.SemBExpr
import TshVerif.Lemmas.SemBSrc
namespace Tsh.SemB
open Tsh Tsh.Tr Tsh.Batch Tsh.Sem

/-- `!e`, as an operation that ignores its right operand -/
theorem unaryOp_sem {e r op t : String} {s s' : St} (h0 : s.funcs = []) (h : unaryOp e op s = .ok (t, s')) :
    batchT.OpLine (fun a _ v => ∃ x, a = .bool x ∧ v = .bool (!x)) e r t s s' := by
  by_cases ho : op = "!"
  · subst ho
    simp only [unaryOp, beq_self_eq_true, if_true] at h
    rw [fresh_lineB (fun h => .ifSet "" e "equ" "1" h "0" "1") s h0] at h
    obtain ⟨rfl, rfl⟩ := EM.pure_ok h
    refine ⟨_, rfl, Adv.ofAdvB _ _ 1 rfl, ?_⟩
    rintro a b v ⟨x, rfl, rfl⟩ k ρ hl _
    have := stepB_ifNum (os := "equ") (v := x) (helperName s.varCounter) (expandNum_bool hl) (expandNum_one ρ)
      (by cases x <;> rfl) (a := "0") (b := "1") rfl rfl
    cases x <;> exact this
  · simp [unaryOp, bind, nextHelperVar, ho, Tr.fail] at h

theorem binaryOp_sem {l op r t : String} {vt : ValueType} {s s' : St} (h0 : s.funcs = []) (h : binaryOp l op r vt s = .ok (t, s')) :
    batchT.OpLine (fun a b v => Src32.binVal vt op a b = some v) l r t s s' := by
  by_cases hsl : vt.isSlice = true
  · simp [binaryOp, bind, nextHelperVar, hsl, notAllowedBin, Tr.fail] at h
  have hsl' : vt.isSlice = false := by simpa using hsl
  cases hd : vt.dt with
  | int =>
    by_cases ho : (op == "*" || op == "/" || op == "+" || op == "-" || op == "%") = true
    · simp only [binaryOp, hsl', hd, ho, if_true, Bool.false_eq_true, if_false] at h
      rw [fresh_lineB (fun h => .setA h l op r) s h0] at h
      obtain ⟨rfl, rfl⟩ := EM.pure_ok h
      refine ⟨_, rfl, Adv.ofAdvB _ _ 1 rfl, ?_⟩
      intro a b v hv k ρ hl hr
      unfold Src32.binVal at hv
      rw [if_neg hsl] at hv
      split at hv
      · rename_i x y _
        split at hv
        · rename_i hrd
          simp only [Bool.and_eq_true] at hrd
          cases hz : arith32 op x y with
          | none => simp [hz] at hv
          | some z =>
            simp only [hz, Option.map, Option.some.injEq] at hv
            subst hv
            exact stepB_arith _ hl hr hrd.1 hrd.2 hz
        · simp at hv
      · rename_i hdt; rw [hd] at hdt; cases hdt
      · simp at hv
    · simp [binaryOp, bind, nextHelperVar, hsl, hd, ho, notAllowedBin, Tr.fail] at h
  | string =>
    by_cases ho : op = "+"
    · subst ho
      simp only [binaryOp, hsl', hd, beq_self_eq_true, if_true, Bool.false_eq_true, if_false] at h
      obtain ⟨rfl, rfl⟩ := EM.pure_ok ((fresh_lineB (fun h => .set h (l ++ r)) s h0).symm.trans h)
      refine ⟨_, rfl, Adv.ofAdvB _ _ 1 rfl, ?_⟩
      intro a b v hv k ρ hl hr
      unfold Src32.binVal at hv
      rw [if_neg hsl] at hv
      split at hv
      · rename_i hdt; rw [hd] at hdt; cases hdt
      · rename_i x y _
        simp only [beq_self_eq_true, if_true, Option.some.injEq] at hv
        subst hv
        exact stepB_concat _ hl hr
      · simp at hv
    · simp [binaryOp, bind, nextHelperVar, hsl, hd, ho, notAllowedBin, Tr.fail] at h
  | _ => simp [binaryOp, bind, nextHelperVar, hsl, hd, notAllowedBin, Tr.fail] at h

theorem logicalOp_sem {l op r t : String} {s s' : St} (h0 : s.funcs = []) (h : logicalOp l op r s = .ok (t, s')) :
    batchT.OpLine (fun a b v => logVal op a b = some v) l r t s s' := by
  by_cases h1 : op = "&&"
  · subst h1
    simp only [logicalOp, beq_self_eq_true, if_true] at h
    rw [fresh_lineB (fun h => .andSet l r h) s h0] at h
    obtain ⟨rfl, rfl⟩ := EM.pure_ok h
    refine ⟨_, rfl, Adv.ofAdvB _ _ 1 rfl, ?_⟩
    intro a b v h k ρ hl hr
    obtain ⟨x, y, rfl, rfl, hv⟩ := logVal_some h
    simp only [beq_self_eq_true, if_true, Option.some.injEq] at hv
    subst hv
    exact stepB_and _ hl hr
  · by_cases h2 : op = "||"
    · subst h2
      simp only [logicalOp, beq_self_eq_true, if_true, show (("||" : String) == "&&") = false by decide, Bool.false_eq_true,
        if_false] at h
      rw [fresh_lineB (fun h => .orSet l r h) s h0] at h
      obtain ⟨rfl, rfl⟩ := EM.pure_ok h
      refine ⟨_, rfl, Adv.ofAdvB _ _ 1 rfl, ?_⟩
      intro a b v h k ρ hl hr
      obtain ⟨x, y, rfl, rfl, hv⟩ := logVal_some h
      simp only [beq_self_eq_true, if_true, Option.some.injEq, show (("||" : String) == "&&") = false by decide,
        Bool.false_eq_true, if_false] at hv
      subst hv
      exact stepB_or _ hl hr
    · simp [logicalOp, bind, nextHelperVar, Tr.get, h1, h2, Tr.fail] at h

theorem intCmp_numIf {op : String} {x y : Int} {v : Bool} (h : Src.intCmp op x y = some v) :
    numIf (compareOpString op ⟨.int, false⟩).1 x y = some v := by
  unfold Src.intCmp at h
  by_cases h1 : op = "=="
  · subst h1; simp at h; simp [compareOpString, numIf, h]
  by_cases h2 : op = "!="
  · subst h2; simp at h; simp [compareOpString, numIf, h]
  by_cases h3 : op = ">"
  · subst h3; simp at h; simp [compareOpString, numIf, h]
  by_cases h4 : op = ">="
  · subst h4; simp at h; simp [compareOpString, numIf, h]
  by_cases h5 : op = "<"
  · subst h5; simp at h; simp [compareOpString, numIf, h]
  by_cases h6 : op = "<="
  · subst h6; simp at h; simp [compareOpString, numIf, h]
  simp [h1, h2, h3, h4, h5, h6] at h

theorem comparisonOp_sem {l op r t : String} {vt : ValueType} {s s' : St} (h0 : s.funcs = [])
    (h : comparisonOp l op r vt s = .ok (t, s')) : batchT.OpLine (fun a b v => Src32.cmpVal vt op a b = some v) l r t s s' := by
  unfold comparisonOp at h
  by_cases hos : ((compareOpString op vt).1.length == 0) = true
  · simp [comparisonOpWith, hos, Tr.fail] at h
  simp only [comparisonOpWith, hos, Bool.false_eq_true, if_false] at h
  rw [fresh_lineB (fun h => .ifSet (compareOpString op vt).2 l (compareOpString op vt).1 r h "1" "0") s h0] at h
  obtain ⟨rfl, rfl⟩ := EM.pure_ok h
  refine ⟨_, rfl, Adv.ofAdvB _ _ 1 rfl, ?_⟩
  intro a b v hv k ρ hl hr
  obtain ⟨dt, sl⟩ := vt
  unfold Src32.cmpVal at hv
  cases sl with
  | true => simp at hv
  | false =>
  rw [if_neg (by simp)] at hv
  split at hv
  · -- booleans: compared as the numbers 0 and 1
    rename_i x y hdt
    have hdt' : dt = .bool := hdt
    subst hdt'
    simp only [compareOpString, Bool.false_eq_true, if_false]
    split at hv
    · rename_i he
      simp only [Option.some.injEq] at hv
      subst hv
      simp only [he, if_true]
      exact stepB_ifNum _ (expandNum_bool hl) (expandNum_bool hr) (by cases x <;> cases y <;> rfl) rfl rfl
    split at hv
    · rename_i he hn
      simp only [Option.some.injEq] at hv
      subst hv
      simp only [he, hn, if_true]
      exact stepB_ifNum _ (expandNum_bool hl) (expandNum_bool hr) (by cases x <;> cases y <;> rfl) rfl rfl
    · simp at hv
  · rename_i x y hdt
    have hdt' : dt = .int := hdt
    subst hdt'
    split at hv
    · rename_i hrd
      simp only [Bool.and_eq_true] at hrd
      cases hz : Src.intCmp op x y with
      | none => simp [hz] at hv
      | some z =>
        simp only [hz, Option.map, Option.some.injEq] at hv
        subst hv
        exact stepB_ifNum _ (expandNum_of_holds hl hrd.1) (expandNum_of_holds hr hrd.2) (intCmp_numIf hz) rfl rfl
    · simp at hv
  · rename_i x y hdt
    have hdt' : dt = .string := hdt
    subst hdt'
    simp only [compareOpString, Bool.false_eq_true, if_false]
    split at hv
    · rename_i he
      simp only [Option.some.injEq] at hv
      subst hv
      simp only [he, if_true]
      exact stepB_ifStr _ (HoldsD.expand hl) (HoldsD.expand hr) rfl rfl rfl
    split at hv
    · rename_i he hn
      simp only [Option.some.injEq] at hv
      subst hv
      simp only [he, hn, if_true]
      exact stepB_ifStr _ (HoldsD.expand hl) (HoldsD.expand hr) rfl rfl rfl
    · simp at hv
  · simp at hv

/-- by `simp`, not `rfl`: as `conv_comparison` of `SemExpr` -/
theorem conv_comparison (l op r : String) (vt : ValueType) (u : Bool) : conv.comparison l op r vt u = comparisonOp l op r vt := by
  simp only [conv]

theorem batchOps : batchT.Ops src32 where
  strLit lit s r s' h0 hc := by
    obtain ⟨t, s1, h1, hc⟩ := EM.bind_ok hc
    obtain ⟨rfl, rfl⟩ := EM.pure_ok hc
    obtain ⟨rfl, ad⟩ := stringToString_ok (show stringToString lit s = .ok (t, _) from h1)
    refine ⟨_, [], 0, rfl, ad, fun env v hv => .nil fun ρ _ ρ' _ => ?_⟩
    split at hv
    · rename_i hp
      cases hv
      rw [escapeB_plain lit hp]
      exact completeD_plain ρ' _ (plainLitB_not_special lit hp)
    · cases hv
  varEval x _ g s h0 := by
    show varEvaluation x g s = _
    simp only [varEvaluation, bind, Tr.get, pure, varEvalString, varName_topB s h0]
  varDef := varAssignment_top
  unary := unaryOp_sem
  binary := binaryOp_sem
  compare h0 h := comparisonOp_sem h0 (conv_comparison .. ▸ h)
  logical := logicalOp_sem

theorem exprB_full (e : Expr) (hf : Src.fragExpr e = true) (used : Bool) :
    batchT.ExprFull (Tr.evalExpr conv e used) (fun env => Src32.evalExpr env e) :=
  batchT.expr_full batchOps e hf used

end Tsh.SemB
