/-
  Labels of the Batch converter's if / loop constructs (`clabel` / `cgoto` lines: the labels allocated from
  `ifCounter` and `forCounter`): no label is defined twice, every jump goes to a label that is defined
  -- invariant of every converter operation, hence of every program (no hypothesis on the AST).
-/
import TshVerif.Lemmas.BatchGrade
import TshVerif.Lemmas.Names
namespace Tsh.Batch
open Tsh Tsh.Tr

def clab : BLine → Option String | .clabel n => some n | _ => none
def cgo : BLine → Option String | .cgoto n => some n | _ => none

def clabels (s : St) : List String := (codeLines s).filterMap clab
def cgotos (s : St) : List String := (codeLines s).filterMap cgo

theorem ifL_inj {a b : Nat} (h : ifL a = ifL b) : a = b := Names.numbered_inj "_i" h
theorem forL_inj {a b : Nat} (h : forL a = forL b) : a = b := Names.numbered_inj "_f" h
theorem endL_inj {a b : Nat} (h : endL a = endL b) : a = b := Names.numbered_inj "_e" h
theorem ifL_ne_forL (a b : Nat) : ifL a ≠ forL b := Names.stems_ne (p := "_i") (q := "_f") (by decide) (by decide) _ _
theorem ifL_ne_endL (a b : Nat) : ifL a ≠ endL b := Names.stems_ne (p := "_i") (q := "_e") (by decide) (by decide) _ _
theorem forL_ne_endL (a b : Nat) : forL a ≠ endL b := Names.stems_ne (p := "_f") (q := "_e") (by decide) (by decide) _ _

/-- a label that one of the allocators has already handed out -/
def Bounded (s : St) (l : String) : Prop :=
  (∃ n, n < s.ifCounter ∧ l = ifL n) ∨ (∃ n, n < s.forCounter ∧ (l = forL n ∨ l = endL n))

def plainLine (l : BLine) : Bool := (clab l).isNone && (cgo l).isNone

theorem quietLine_plain {l : BLine} (h : quietLine l = true) : plainLine l = true := by
  cases l <;> first | rfl | cases h

theorem clab_plain {l : BLine} (h : plainLine l = true) : clab l = none :=
  Option.isNone_iff_eq_none.mp (Bool.and_eq_true_iff.mp h).1

theorem cgo_plain {l : BLine} (h : plainLine l = true) : cgo l = none :=
  Option.isNone_iff_eq_none.mp (Bool.and_eq_true_iff.mp h).2

theorem filterMap_plain {f : BLine → Option String} (hf : ∀ {l}, plainLine l = true → f l = none) (ls : List BLine)
    (h : ∀ l ∈ ls, plainLine l = true) : ls.filterMap f = [] :=
  List.filterMap_eq_nil_iff.mpr fun l hl => hf (h l hl)

/-- A label is DEFINED when its `clabel` line is in the code, PENDING while it waits on `ifs` or `endLabels`.  `nd`: defined and
    pending labels are pairwise different; `bd`: all of them, and the loop heads on `fors`, were handed out by the counters (so
    the next allocation is fresh); `forsDef`: the head of an open loop is defined; `gt`: every jump goes to a defined or pending label;
    `startRaw`: the start code is `startLine` lines.  The code is read through `clabels`, `cgotos`, up to `Perm`: silent on the ORDER
    of lines and on the function labels `.label` / `.goto`. -/
structure LInv (s : St) : Prop where
  startRaw : ∀ l ∈ s.startCode, startLine l = true
  nd : (clabels s ++ s.ifs ++ s.endLabels).Nodup
  bd : ∀ l, l ∈ clabels s ∨ l ∈ s.ifs ∨ l ∈ s.endLabels ∨ l ∈ s.fors → Bounded s l
  forsDef : ∀ l ∈ s.fors, l ∈ clabels s
  gt : ∀ t ∈ cgotos s, t ∈ clabels s ∨ t ∈ s.ifs ∨ t ∈ s.endLabels

theorem LInv.startPlain {s : St} (hi : LInv s) : ∀ l ∈ s.startCode, plainLine l = true :=
  fun l hl => quietLine_plain (startLine_quiet (hi.startRaw l hl))

/-- what `addLine l` does to the data `LInv` reads -/
structure LEff (l : BLine) (s s' : St) : Prop where
  labs : (clabels s').Perm ((clab l).toList ++ clabels s)
  gos : (cgotos s').Perm ((cgo l).toList ++ cgotos s)
  ifs : s'.ifs = s.ifs
  fors : s'.fors = s.fors
  endLabels : s'.endLabels = s.endLabels
  ifCounter : s'.ifCounter = s.ifCounter
  forCounter : s'.forCounter = s.forCounter
  start : s'.startCode = s.startCode

theorem filterMap_cons_toList {α β : Type} (f : α → Option β) (x : α) (xs : List α) :
    (x :: xs).filterMap f = (f x).toList ++ xs.filterMap f := by
  rw [List.filterMap_cons]; cases f x <;> rfl

theorem addLine_leff {l : BLine} {s s' : St} {a : Unit} (h : addLine l s = .ok (a, s')) : LEff l s s' := by
  obtain ⟨p, fc, gc, rfl, hp⟩ := addLine_ok h
  refine ⟨?_, ?_, rfl, rfl, rfl, rfl, rfl, rfl⟩
  · have := hp.filterMap clab; rwa [filterMap_cons_toList] at this
  · have := hp.filterMap cgo; rwa [filterMap_cons_toList] at this

/-- nothing `LInv` reads has changed, up to order and start lines: what an operation that emits only plain lines does -/
structure Same (s s' : St) : Prop where
  labs : (clabels s').Perm (clabels s)
  gos : (cgotos s').Perm (cgotos s)
  ifs : s'.ifs = s.ifs
  fors : s'.fors = s.fors
  endLabels : s'.endLabels = s.endLabels
  ifCounter : s'.ifCounter = s.ifCounter
  forCounter : s'.forCounter = s.forCounter
  start : ∀ l ∈ s'.startCode, l ∈ s.startCode ∨ startLine l = true

theorem Same.refl (s : St) : Same s s := ⟨List.Perm.refl _, List.Perm.refl _, rfl, rfl, rfl, rfl, rfl, fun _ h => Or.inl h⟩
theorem Same.trans {a b c : St} (h1 : Same a b) (h2 : Same b c) : Same a c :=
  ⟨h2.labs.trans h1.labs, h2.gos.trans h1.gos, h2.ifs.trans h1.ifs, h2.fors.trans h1.fors, h2.endLabels.trans h1.endLabels,
   h2.ifCounter.trans h1.ifCounter, h2.forCounter.trans h1.forCounter,
   fun l hl => (h2.start l hl).elim (fun h => h1.start l h) Or.inr⟩

theorem Quiet.same {s s' : St} (h : Quiet s s') : Same s s' := by
  obtain ⟨nc, hc, hq⟩ := h.code
  obtain ⟨ns, hs, hl⟩ := h.start
  have hp : ∀ l ∈ nc, plainLine l = true := fun l hm => quietLine_plain (hq l hm)
  refine ⟨?_, ?_, h.ifs, h.fors, h.endLabels, h.ifCounter, h.forCounter, ?_⟩
  · have := hc.filterMap clab; rwa [List.filterMap_append, filterMap_plain clab_plain nc hp] at this
  · have := hc.filterMap cgo; rwa [List.filterMap_append, filterMap_plain cgo_plain nc hp] at this
  · intro l hm
    rw [hs] at hm
    exact (List.mem_append.mp hm).elim (fun hn => .inr (hl l hn)) .inl

def PlainOp {α : Type} (m : BM α) : Prop := Rel Same m

theorem PlainOp.ofQuiet {α : Type} {m : BM α} (h : Rel Quiet m) : PlainOp m := h.mono Quiet.same

theorem po_pure {α : Type} (a : α) : PlainOp (pure a : BM α) := Rel.pure Same.refl a
theorem po_bind {α β : Type} (x : BM α) (f : α → BM β) (hx : PlainOp x) (hf : ∀ a, PlainOp (f a)) : PlainOp (x >>= f) :=
  Rel.bind (R := Same) Same.trans hx hf
theorem po_fail {α : Type} (m : String) : PlainOp (Tr.fail m : BM α) := Rel.fail m

def poClosed : Closed St where
  P := fun m => PlainOp m
  pure := po_pure
  bind := po_bind
  fail := po_fail

theorem po_addLine (l : BLine) (hl : plainLine l = true) : PlainOp (addLine l) := by
  intro s a s' h
  have e := addLine_leff h
  exact ⟨by simpa [clab_plain hl] using e.labs, by simpa [cgo_plain hl] using e.gos, e.ifs, e.fors, e.endLabels, e.ifCounter, e.forCounter,
    fun l hl => Or.inl (e.start ▸ hl)⟩

theorem po_funcs (f : List String → List String) (g : Nat → Nat) :
    PlainOp (Tr.modify fun s => { s with funcs := f s.funcs, funcCounter := g s.funcCounter } : BM Unit) :=
  Rel.modify _ fun _ => ⟨.refl _, .refl _, rfl, rfl, rfl, rfl, rfl, fun _ h => .inl h⟩

theorem po_funcStartOp (n : String) (ps : List String) : PlainOp (funcStartOp n ps) :=
  po_bind _ _ (po_funcs (n :: ·) (· + 1)) fun _ => po_bind _ _ (po_addLine _ rfl) fun _ => po_bind _ _ (po_addLine _ rfl) fun _ =>
    po_bind _ _ (po_addLine _ rfl) fun _ => .ofQuiet (built_setParams _ _).quiet

theorem po_funcEndOp : PlainOp funcEndOp :=
  po_bind _ _ (.ofQuiet quiet_currentFunc) fun _ => po_bind _ _ (po_addLine _ rfl) fun _ => po_bind _ _ (po_addLine _ rfl) fun _ =>
    po_bind _ _ (po_addLine _ rfl) fun _ => po_bind _ _ (po_addLine _ rfl) fun _ => po_funcs (·.drop 1) id

theorem po_forIncrementStartOp : PlainOp forIncrementStartOp :=
  po_bind _ _ (.ofQuiet quiet_get) fun _ => po_addLine _ rfl

theorem po_forIncrementEndOp : PlainOp forIncrementEndOp :=
  po_bind _ _ (.ofQuiet quiet_get) fun _ => po_bind _ _ (po_addLine _ rfl) fun _ => po_addLine _ rfl

theorem Bounded.mono {s s' : St} {l : String} (h : Bounded s l) (h1 : s.ifCounter ≤ s'.ifCounter) (h2 : s.forCounter ≤ s'.forCounter) :
    Bounded s' l := by
  rcases h with ⟨n, hn, rfl⟩ | ⟨n, hn, hl⟩
  · exact Or.inl ⟨n, Nat.lt_of_lt_of_le hn h1, rfl⟩
  · exact Or.inr ⟨n, Nat.lt_of_lt_of_le hn h2, hl⟩

theorem not_bounded_next (s : St) :
    ¬ Bounded s (ifL s.ifCounter) ∧ ¬ Bounded s (forL s.forCounter) ∧ ¬ Bounded s (endL s.forCounter) := by
  refine ⟨?_, ?_, ?_⟩
  · rintro (⟨n, hn, he⟩ | ⟨n, _, he | he⟩)
    · exact Nat.lt_irrefl _ (ifL_inj he ▸ hn)
    · exact ifL_ne_forL _ _ he
    · exact ifL_ne_endL _ _ he
  · rintro (⟨n, _, he⟩ | ⟨n, hn, he | he⟩)
    · exact ifL_ne_forL _ _ he.symm
    · exact Nat.lt_irrefl _ (forL_inj he ▸ hn)
    · exact forL_ne_endL _ _ he
  · rintro (⟨n, _, he⟩ | ⟨n, hn, he | he⟩)
    · exact ifL_ne_endL _ _ he.symm
    · exact forL_ne_endL _ _ he.symm
    · exact Nat.lt_irrefl _ (endL_inj he ▸ hn)

theorem mem_three {A I E : List String} {l : String} : l ∈ A ++ I ++ E ↔ l ∈ A ∨ l ∈ I ∨ l ∈ E := by
  rw [List.mem_append, List.mem_append, or_assoc]

/-- one step of any operation that defines the labels `nl` and jumps to `ng`: the labels `new` are freshly allocated; up to
    order the new definitions and the pending labels are the old pending labels and `new`; loop labels are defined; the jumps
    go to defined or pending labels -/
theorem LInv.step {s s' : St} (hi : LInv s) (nl ng new : List String)
    (hlabs : (clabels s').Perm (nl ++ clabels s)) (hgo : (cgotos s').Perm (ng ++ cgotos s))
    (hstart : ∀ l ∈ s'.startCode, startLine l = true)
    (hall : (nl ++ s'.ifs ++ s'.endLabels).Perm (new ++ (s.ifs ++ s.endLabels)))
    (hnd : new.Nodup) (hnew : ∀ x ∈ new, ¬ Bounded s x ∧ Bounded s' x)
    (hic : s.ifCounter ≤ s'.ifCounter) (hfc : s.forCounter ≤ s'.forCounter)
    (hfors : ∀ l ∈ s'.fors, l ∈ nl ∨ l ∈ s.fors)
    (hng : ∀ t ∈ ng, t ∈ nl ∨ t ∈ clabels s ∨ t ∈ s'.ifs ∨ t ∈ s'.endLabels) : LInv s' := by
  have hK : (clabels s' ++ s'.ifs ++ s'.endLabels).Perm (new ++ (clabels s ++ s.ifs ++ s.endLabels)) := by
    refine ((hlabs.append_right _).append_right _).trans ?_
    simp only [List.append_assoc] at hall ⊢
    exact (List.perm_append_comm_assoc _ _ _).trans ((hall.append_left _).trans (List.perm_append_comm_assoc _ _ _))
  have lab : ∀ l, l ∈ nl ∨ l ∈ clabels s → l ∈ clabels s' := fun l hl => hlabs.mem_iff.mpr (List.mem_append.mpr hl)
  have old : ∀ l ∈ clabels s ++ s.ifs ++ s.endLabels, Bounded s l :=
    fun l hl => hi.bd l ((mem_three.mp hl).imp_right (Or.imp_right Or.inl))
  have bd : ∀ l ∈ clabels s' ++ s'.ifs ++ s'.endLabels, Bounded s' l := fun l hl =>
    (List.mem_append.mp (hK.mem_iff.mp hl)).elim (fun hn => (hnew l hn).2) fun ho => (old l ho).mono hic hfc
  have fors : ∀ l ∈ s'.fors, l ∈ clabels s' := fun l hl => lab l ((hfors l hl).imp_right (hi.forsDef l))
  refine ⟨hstart, hK.nodup_iff.mpr (List.nodup_append.mpr ⟨hnd, hi.nd, fun x hx y hy e => (hnew x hx).1 (e ▸ old y hy)⟩),
    fun l hl => bd l ?_, fors, fun t ht => ?_⟩
  · rcases hl with hl | hl | hl | hl
    · exact mem_three.mpr (.inl hl)
    · exact mem_three.mpr (.inr (.inl hl))
    · exact mem_three.mpr (.inr (.inr hl))
    · exact mem_three.mpr (.inl (fors l hl))
  · rcases List.mem_append.mp (hgo.mem_iff.mp ht) with hn | ho
    · rcases hng t hn with h | h | h
      · exact .inl (lab t (.inl h))
      · exact .inl (lab t (.inr h))
      · exact .inr h
    · exact mem_three.mp (hK.mem_iff.mpr (List.mem_append_right _ (mem_three.mpr (hi.gt t ho))))

theorem Same.linv {s s' : St} (h : Same s s') (hi : LInv s) : LInv s' :=
  hi.step [] [] [] h.labs h.gos (fun l hl => (h.start l hl).elim (hi.startRaw l) id)
    (by rw [h.ifs, h.endLabels]; exact .refl _) .nil (fun _ hx => nomatch hx)
    (Nat.le_of_eq h.ifCounter.symm) (Nat.le_of_eq h.forCounter.symm) (fun l hl => .inr (h.fors ▸ hl)) fun _ hx => nomatch hx

def LOk {α : Type} (m : BM α) : Prop := Rel (fun s s' => LInv s → LInv s') m

theorem PlainOp.lok {α : Type} {m : BM α} (h : PlainOp m) : LOk m := h.mono Same.linv

def lokClosed : Closed St := Closed.ofRel (fun s s' => LInv s → LInv s') (fun _ => id) (fun h1 h2 => h2 ∘ h1)

theorem lok_exprOps : ExprOps lokClosed conv := quiet_exprOps.imp fun h => (PlainOp.ofQuiet h).lok

theorem addLine_bind {α : Type} {l : BLine} {k : Unit → BM α} {s s' : St} {a : α} (h : (addLine l >>= k) s = .ok (a, s')) :
    ∃ p fc gc, (fc.flatten ++ gc).Perm (l :: codeLines s) ∧
      k () { s with previousFunctionName := p, functionsCode := fc, globalCode := gc } = .ok (a, s') := by
  obtain ⟨_, s1, h1, h2⟩ := EM.bind_ok h
  obtain ⟨p, fc, gc, rfl, hp⟩ := addLine_ok h1
  exact ⟨p, fc, gc, hp, h2⟩

theorem lok_ifStartOp (c : String) : LOk (ifStartOp c) := by
  intro s a s' h hi
  obtain ⟨_, fc, gc, rfl, hp⟩ := addLine_ok (show addLine _ _ = _ from h)
  exact hi.step [] [] [ifL s.ifCounter] (hp.filterMap clab) (hp.filterMap cgo) hi.startRaw (.refl _) (List.pairwise_singleton _ _)
    (List.forall_mem_cons.mpr ⟨⟨(not_bounded_next s).1, .inl ⟨_, Nat.lt_succ_self _, rfl⟩⟩, fun _ hx => nomatch hx⟩)
    (Nat.le_succ _) (Nat.le_refl _) (fun _ hl => .inr hl) fun _ hx => nomatch hx

theorem lok_ifEndOp : LOk ifEndOp := by
  intro s0 a s' h hi
  obtain ⟨l, s, h1, hk⟩ := EM.bind_ok h
  obtain ⟨rfl, rest, hifs⟩ := currentIf_ok h1
  obtain ⟨_, _, _, p2, hk⟩ := addLine_bind hk
  obtain ⟨_, _, _, p3, hk⟩ := addLine_bind hk
  obtain ⟨_, fc, gc, p4, hk⟩ := addLine_bind hk
  cases hk
  have hp := p4.trans ((p3.trans (p2.cons _)).cons _)
  have hall : ([l] ++ List.drop 1 s.ifs ++ s.endLabels).Perm (s.ifs ++ s.endLabels) := by rw [hifs]; exact .refl _
  exact hi.step [l] [l] [] (hp.filterMap clab) (hp.filterMap cgo) hi.startRaw hall .nil (fun _ hx => nomatch hx)
    (Nat.le_refl _) (Nat.le_refl _) (fun _ hl => .inr hl) fun _ ht => .inl ht

theorem linv_cgoto {s : St} {t p : String} {fc : List (List BLine)} {gc : List BLine}
    (hp : (fc.flatten ++ gc).Perm (.cgoto t :: codeLines s)) (ht : t ∈ clabels s ++ s.ifs ++ s.endLabels) (hi : LInv s) :
    LInv { s with previousFunctionName := p, functionsCode := fc, globalCode := gc } :=
  hi.step [] [t] [] (hp.filterMap clab) (hp.filterMap cgo) hi.startRaw (.refl _) .nil (fun _ hx => nomatch hx)
    (Nat.le_refl _) (Nat.le_refl _) (fun _ hl => .inr hl) fun _ hx => List.mem_singleton.mp hx ▸ .inr (mem_three.mp ht)

theorem lok_gotoIf (rest : BM Unit) (hrest : PlainOp rest) : LOk (do let l ← currentIf; addLine (.cgoto l); rest : BM Unit) := by
  intro s0 a s' h hi
  obtain ⟨l, s, h1, hk⟩ := EM.bind_ok h
  obtain ⟨rfl, tail, hifs⟩ := currentIf_ok h1
  obtain ⟨_, _, _, p2, h3⟩ := addLine_bind hk
  exact (hrest _ _ _ h3).linv (linv_cgoto p2 (mem_three.mpr (.inr (.inl (hifs ▸ .head _)))) hi)

theorem lok_elseIfStartOp (c : String) : LOk (elseIfStartOp c) := lok_gotoIf _ (po_addLine _ rfl)

theorem lok_elseStartOp : LOk elseStartOp := lok_gotoIf _ (po_addLine _ rfl)

theorem lok_forStartOp : LOk forStartOp := by
  intro s a s' h hi
  obtain ⟨_, _, _, p4, h5⟩ := addLine_bind (show (addLine _ >>= fun _ => addLine _) _ = _ from h)
  obtain ⟨_, fc, gc, rfl, p5⟩ := addLine_ok h5
  have hp := p5.trans (p4.cons _)
  exact hi.step [forL s.forCounter] [] [forL s.forCounter, endL s.forCounter] (hp.filterMap clab) (hp.filterMap cgo) hi.startRaw
    (.cons _ List.perm_middle)
    (List.nodup_cons.mpr ⟨fun hm => forL_ne_endL _ _ (List.mem_singleton.mp hm), List.pairwise_singleton _ _⟩)
    (List.forall_mem_cons.mpr ⟨⟨(not_bounded_next s).2.1, .inr ⟨_, Nat.lt_succ_self _, .inl rfl⟩⟩,
      List.forall_mem_cons.mpr ⟨⟨(not_bounded_next s).2.2, .inr ⟨_, Nat.lt_succ_self _, .inr rfl⟩⟩, fun _ hx => nomatch hx⟩⟩)
    (Nat.le_refl _) (Nat.le_succ _) (List.forall_mem_cons.mpr ⟨.inl (.head _), fun _ hl => .inr hl⟩) fun _ hx => nomatch hx

theorem lok_forEndOp : LOk forEndOp := by
  intro s0 a s' h hi
  obtain ⟨l, s, h1, hk⟩ := EM.bind_ok h
  obtain ⟨rfl, frest, hfors⟩ := currentFor_ok h1
  obtain ⟨_, _, _, p2, hk⟩ := addLine_bind hk
  obtain ⟨_, _, _, p3, hk⟩ := addLine_bind hk
  have hk : forEndTail s.endLabels _ = _ := hk
  cases hen : s.endLabels with
  | nil => rw [hen] at hk; cases hk
  | cons e erest =>
    rw [hen] at hk
    obtain ⟨_, fc, gc, rfl, p7⟩ := addLine_ok (show addLine _ _ = _ from hk)
    have hp := p7.trans ((p3.trans (p2.cons _)).cons _)
    have hall : ([e] ++ s.ifs ++ erest).Perm (s.ifs ++ s.endLabels) := by rw [hen]; exact List.perm_middle.symm
    exact hi.step [e] [l] [] (hp.filterMap clab) (hp.filterMap cgo) hi.startRaw hall .nil (fun _ hx => nomatch hx)
      (Nat.le_refl _) (Nat.le_refl _) (fun _ hx => .inr (List.mem_of_mem_drop hx))
      fun _ ht => .inr (.inl (hi.forsDef _ (List.mem_singleton.mp ht ▸ hfors ▸ .head _)))

theorem lok_brkOp : LOk brkOp := by
  intro s a s' h hi
  have h : brkTail s.endLabels s = _ := h
  cases he : s.endLabels with
  | nil => rw [he] at h; cases h
  | cons e rest =>
    rw [he] at h
    obtain ⟨_, _, _, rfl, hp⟩ := addLine_ok (show addLine _ _ = _ from h)
    exact linv_cgoto hp (mem_three.mpr (.inr (.inr (he ▸ .head _)))) hi

theorem lok_contOp : LOk contOp := by
  intro s0 a s' h hi
  obtain ⟨l, s, h1, h2⟩ := EM.bind_ok h
  obtain ⟨rfl, rest, hf⟩ := currentFor_ok h1
  obtain ⟨_, _, _, rfl, hp⟩ := addLine_ok h2
  exact linv_cgoto hp (mem_three.mpr (.inl (hi.forsDef l (hf ▸ .head _)))) hi

theorem lok_stmtOps : StmtOps lokClosed conv where
  sliceAssignment := fun n i v d g => (PlainOp.ofQuiet (built_sliceAssignmentOp n i v d g).quiet).lok
  funcStart := fun n ps => (po_funcStartOp n ps).lok
  funcEnd := po_funcEndOp.lok
  ret := fun vs => (PlainOp.ofQuiet (quiet_retOp vs)).lok
  ifStart := lok_ifStartOp
  ifEnd := lok_ifEndOp
  elseIfStart := lok_elseIfStartOp
  elseIfEnd := Rel.pure (fun _ => id) ()
  elseStart := lok_elseStartOp
  elseEnd := Rel.pure (fun _ => id) ()
  forStart := lok_forStartOp
  forIncrementStart := po_forIncrementStartOp.lok
  forIncrementEnd := po_forIncrementEndOp.lok
  forCondition := fun _ => (po_addLine _ rfl).lok
  forEnd := lok_forEndOp
  brk := lok_brkOp
  cont := lok_contOp
  print := fun vs => (PlainOp.ofQuiet (built_callEcho vs).quiet).lok
  panic := fun v => (PlainOp.ofQuiet (built_panicOp v).quiet).lok
  writeFile := fun p c a => (PlainOp.ofQuiet (built_writeFileOp p c a).quiet).lok
  nop := (po_addLine _ rfl).lok

theorem evalStmts_lok (body : List Stmt) : LOk (evalStmts conv body) :=
  evalStmts_closed lokClosed conv lok_exprOps lok_stmtOps (fun m => Rel.panic m) body

theorem linv_init : LInv ({} : St) := by
  refine ⟨?_, ?_, ?_, ?_, ?_⟩
  · intro l hl; simp at hl
  · simp [clabels, codeLines]
  · intro l hl; simp [clabels, codeLines] at hl
  · intro l hl; simp at hl
  · intro t ht; simp [cgotos, codeLines] at ht

theorem program_linv (p : Program) (u : Unit) (s : St) (h : evalProgram conv p {} = .ok (u, s)) : LInv s := by
  have hp : LOk (evalProgram conv p) :=
    lokClosed.bind _ _ (PlainOp.ofQuiet built_programStart.quiet).lok fun _ => lokClosed.bind _ _ (evalStmts_lok p) fun _ => lokClosed.pure _
  exact hp _ _ _ h linv_init

theorem helperLines_plain (s : St) : (helperLines s).all plainLine = true := by
  have e : ∀ (b : Bool) (t l : String) (code : List BLine), code.all plainLine = true →
      (if b then helper t l code else []).all plainLine = true := by
    intro b t l code h; cases b
    · rfl
    · simp only [if_pos, helper, List.all_append, h]; rfl
  simp (disch := decide) only [helperLines, List.all_append, e, Bool.and_self]

theorem dump_filterMap {f : BLine → Option String} (hf : ∀ {l}, plainLine l = true → f l = none) (s : St)
    (hs : ∀ l ∈ s.startCode, plainLine l = true) : ((dumpLines s).filterMap f).Perm ((codeLines s).filterMap f) := by
  have := (dumpLines_perm s).filterMap f
  rwa [List.filterMap_append, List.filterMap_append, List.filterMap_append, filterMap_plain hf _ hs,
    filterMap_plain hf _ (List.all_eq_true.mp (helperLines_plain s)), List.nil_append, List.nil_append,
    filterMap_plain hf [.label "end", .raw "endlocal & exit /B %_e%"] (by decide), List.append_nil] at this

/-- the invariant as a statement about the script, once both label stacks are empty -/
theorem LInv.dump {s : St} (hi : LInv s) (hifs : s.ifs = []) (hends : s.endLabels = []) :
    ((dumpLines s).filterMap clab).Nodup ∧ (∀ t ∈ (dumpLines s).filterMap cgo, t ∈ (dumpLines s).filterMap clab) ∧
      ∀ l ∈ (dumpLines s).filterMap clab, Bounded s l := by
  have hl : ((dumpLines s).filterMap clab).Perm (clabels s) := dump_filterMap clab_plain s hi.startPlain
  refine ⟨hl.nodup_iff.mpr (by simpa [hifs, hends] using hi.nd), fun t ht => hl.mem_iff.mpr ?_,
    fun l h => hi.bd l (.inl (hl.mem_iff.mp h))⟩
  simpa [hifs, hends] using hi.gt t ((dump_filterMap cgo_plain s hi.startPlain).mem_iff.mp ht)

end Tsh.Batch
