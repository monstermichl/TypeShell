/-
  Names of the shape "stem followed by a decimal number" (`_h12`, `_fv0`, `_i3`): the number can be read back, two
  stems of which neither begins the other give different names, the first and the last character tell such a name from others;
  and of the mangled shape `f2_x` (stem, number, `_`, rest: `mangled_inj`).
  The generated names of both targets are instances (`Lemmas/SemNames`, `Sem2Names`, `BatchLabels`, `Props/C10`); the two kinds
  that both converters generate, `helperName` and `tmpName`, are defined at the end.
-/
import TshVerif.Base
namespace Tsh.Names

theorem repr_inj {a b : Nat} (h : Nat.repr a = Nat.repr b) : a = b :=
  toDigits_inj (Nat.toList_repr ▸ Nat.toList_repr ▸ congrArg String.toList h)

theorem repr_digits (n : Nat) : ∀ c ∈ (Nat.repr n).toList, c.isDigit = true := fun _ hc =>
  Nat.isDigit_of_mem_toDigits (b := 10) (by decide) (by decide) (Nat.toList_repr ▸ hc)

theorem repr_ne_nil (n : Nat) : (Nat.repr n).toList ≠ [] := Nat.toList_repr ▸ Nat.toDigits_ne_nil

/-- the decimal spelling of an integer: digits, after a `-` if it is negative -/
theorem int_repr_chars (n : Int) : ∀ c ∈ (toString n).toList, c.isDigit = true ∨ c = '-' := by
  intro c hc
  cases n with
  | ofNat m => exact .inl (repr_digits m c hc)
  | negSucc m =>
    rcases List.mem_append.mp (String.toList_append ▸ (hc : c ∈ ("-" ++ Nat.repr (m + 1)).toList)) with h | h
    · exact .inr (List.mem_singleton.mp h)
    · exact .inl (repr_digits _ c h)

/-- the same stem: the number decides -/
theorem numbered_inj (p : String) {a b : Nat} (h : p ++ Nat.repr a = p ++ Nat.repr b) : a = b :=
  repr_inj ((String.append_right_inj p).mp h)

/-- two stems of which neither begins the other -/
theorem stems_ne {p q : String} (hpq : ¬ p.toList <+: q.toList) (hqp : ¬ q.toList <+: p.toList) (s t : String) :
    p ++ s ≠ q ++ t := by
  intro e
  have e := congrArg String.toList e
  rw [String.toList_append, String.toList_append, List.append_eq_append_iff] at e
  rcases e with ⟨_, e, _⟩ | ⟨_, e, _⟩
  · exact hpq ⟨_, e.symm⟩
  · exact hqp ⟨_, e.symm⟩

theorem head_append {p : String} {c : Char} (hp : p.toList.head? = some c) (s : String) : (p ++ s).toList.head? = some c := by
  rw [String.toList_append, List.head?_append, hp]; rfl

/-- the first character tells two names apart -/
theorem ne_of_head {x y : String} {c : Char} (hx : x.toList.head? ≠ some c) (hy : y.toList.head? = some c) : x ≠ y :=
  fun e => hx (e ▸ hy)

/-- the last character: a name that does not end in a digit has no number -/
theorem last_ne {x : String} (hx : ∀ d, x.toList.getLast? = some d → d.isDigit = false) (p : String) (k : Nat) :
    x ≠ p ++ Nat.repr k := by
  rintro rfl
  have hd := repr_digits k _ (List.getLast_mem (repr_ne_nil k))
  rw [hx _ (by rw [String.toList_append, List.getLast?_append, List.getLast?_eq_some_getLast (repr_ne_nil k)]; rfl)] at hd
  cases hd

/-- a text is cut at its first `x` in one way only -/
theorem split_at {α : Type} {x : α} {l1 l2 a b : List α} (h1 : x ∉ l1) (h2 : x ∉ l2) (h : l1 ++ x :: a = l2 ++ x :: b) :
    l1 = l2 ∧ a = b := by
  -- one of the two fronts begins the other; what is left of the longer one would begin with `x`
  rcases List.append_eq_append_iff.mp h with ⟨c, rfl, e⟩ | ⟨c, rfl, e⟩
  · cases c with
    | nil => exact ⟨(List.append_nil _).symm, (List.cons.inj e).2⟩
    | cons y c => cases (List.cons.inj e).1; exact absurd (List.mem_append_right _ List.mem_cons_self) h2
  · cases c with
    | nil => exact ⟨List.append_nil _, (List.cons.inj e).2.symm⟩
    | cons y c => cases (List.cons.inj e).1; exact absurd (List.mem_append_right _ List.mem_cons_self) h1

/-- `stem ++ number ++ "_" ++ rest`: number and rest can be read back -/
theorem mangled_inj (p : String) {i k : Nat} {a b : String}
    (h : p ++ Nat.repr i ++ "_" ++ a = p ++ Nat.repr k ++ "_" ++ b) : i = k ∧ a = b := by
  rw [String.append_assoc, String.append_assoc, String.append_assoc, String.append_assoc] at h
  have h := congrArg String.toList ((String.append_right_inj p).mp h)
  simp only [String.toList_append] at h
  have hn : ∀ n, '_' ∉ (Nat.repr n).toList := fun n hm => by cases repr_digits n _ hm
  obtain ⟨e1, e2⟩ := split_at (hn i) (hn k) h
  exact ⟨repr_inj (String.toList_injective e1), String.toList_injective e2⟩

end Tsh.Names

/-- the helper variable `_h<k>` of an expression and the temporary `_ma<i>` of a simultaneous assignment, in both converters -/
def Tsh.Sem.helperName (k : Nat) : String := "_h" ++ Nat.repr k
def Tsh.Sem.tmpName (i : Nat) : String := "_ma" ++ Nat.repr i
