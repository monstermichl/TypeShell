/-
  Labels of a generated script of the scalar fragment: every construct label (`_i<n>`, `_f<n>`, `_e<n>`) leads to the lines
  behind its definition (`Resolves`), because construct labels are pairwise different (`Lemmas/BatchLabels`, the invariant
  behind `C16.batch_construct_labels_unique`) and no other label of the script - the routines of `helperLines`, `:end` -
  has the shape of a construct label.
-/
import TshVerif.Lemmas.SemBLinesSound
import TshVerif.Lemmas.BatchLabels
namespace Tsh.SemB
open Tsh Tsh.Batch Tsh.Sem

/-- names of the label lines that are not construct labels -/
def plab : BLine → Option String | .label n => some n | _ => none

/-- the third character is a decimal digit: the shape `_i<n>` / `_f<n>` / `_e<n>` -/
def third (l : String) : Bool :=
  match l.toList with
  | _ :: _ :: d :: _ => d.isDigit
  | _ => false

/-- a two-character stem followed by a number -/
theorem third_numbered (a b : Char) (n : Nat) : third (String.ofList [a, b] ++ Nat.repr n) = true := by
  unfold third
  rw [String.toList_append, String.toList_ofList]
  cases hd : (Nat.repr n).toList with
  | nil => exact absurd hd (Names.repr_ne_nil n)
  | cons d ds => exact Names.repr_digits n d (by rw [hd]; exact .head _)

theorem third_of_bounded {s : St} {l : String} (h : Bounded s l) : third l = true := by
  rcases h with ⟨n, _, rfl⟩ | ⟨n, _, rfl | rfl⟩
  · exact third_numbered '_' 'i' n
  · exact third_numbered '_' 'f' n
  · exact third_numbered '_' 'e' n

/-- a line that defines no label of construct shape other than as a construct label -/
def okLine : BLine → Bool
  | .label n => !third n
  | _ => true

theorem third_eo (l : String) : third ("_eo_" ++ l) = false := by
  simp [third, String.toList_append]

theorem helper_ok (t l : String) (code : List BLine) (hl : third l = false) (h : code.all okLine = true) : (helper t l code).all okLine = true := by
  simp only [helper, List.all_append, Bool.and_eq_true, List.all_cons, List.all_nil, okLine, hl, third_eo, Bool.not_false]
  exact ⟨⟨by simp, h⟩, by simp⟩

theorem helperLines_ok (s : St) : (helperLines s).all okLine = true := by
  unfold helperLines
  simp only [List.all_append, Bool.and_eq_true]
  have e : ∀ (b : Bool) (x : List BLine), x.all okLine = true → (if b then x else []).all okLine = true := by
    intro b x hx; cases b <;> simp [hx]
  refine ⟨⟨⟨⟨⟨⟨⟨⟨⟨?_, ?_⟩, ?_⟩, ?_⟩, ?_⟩, ?_⟩, ?_⟩, ?_⟩, ?_⟩, ?_⟩ <;>
    exact e _ _ (helper_ok _ _ _ (by simp [third]) (by simp [okLine, third]))

theorem plab_ok {ls : List BLine} (h : ls.all okLine = true) : ∀ l ∈ ls.filterMap plab, third l = false := by
  intro l hl
  obtain ⟨x, hx, e⟩ := List.mem_filterMap.mp hl
  have := List.all_eq_true.mp h x hx
  cases x <;> simp [plab] at e
  subst e
  simpa [okLine] using this

theorem plab_startLines {ls : List BLine} (h : ∀ l ∈ ls, startLine l = true) : ls.filterMap plab = [] := by
  rw [List.filterMap_eq_nil_iff]
  intro l hl
  have := h l hl
  cases l <;> simp [startLine] at this <;> rfl

theorem plab_plain {l : BLine} (h : plainB l = true) : plab l = none := by
  cases l <;> simp [plainB] at h <;> rfl

theorem plabs_tree :
    (∀ x, wfB x = true → ∀ ctx, (flat ctx x).filterMap plab = []) ∧
    (∀ els, wfElse els = true → ∀ ctx lbl, (flatElse ctx lbl els).filterMap plab = []) ∧
    (∀ xs, wfBs xs = true → ∀ ctx, (flats ctx xs).filterMap plab = []) ∧
    (∀ es, wfElifs es = true → ∀ ctx lbl, (flatElifs ctx lbl es).filterMap plab = []) := by
  refine wfB.mutual_induct _ _ _ _ ?simple ?guarded ?chain ?loop ?brk ?cont ?nil ?cons ?enil ?econs ?none ?some
  case simple => exact fun l h ctx => by simp only [flat, List.filterMap_cons, List.filterMap_nil, plab_plain (l := l) h]
  case guarded =>
    intro n body ih h ctx
    simp only [flat, List.filterMap_cons, List.filterMap_append, List.filterMap_nil, List.append_nil, plab, ih h]
  case chain =>
    intro lbl c thn elifs els iht ihe ihl h ctx
    simp only [wfB, Bool.and_eq_true] at h
    simp only [flat, List.filterMap_cons, List.filterMap_append, List.filterMap_nil, List.append_nil, plab, iht h.1.1, ihe h.1.2, ihl h.2]
  case loop =>
    intro n pre c body ihp ihb h ctx
    simp only [wfB, Bool.and_eq_true] at h
    simp only [flat, List.filterMap_cons, List.filterMap_append, List.filterMap_nil, List.append_nil, plab, ihp h.1, ihb h.2]
  case brk => exact fun _ _ => rfl
  case cont => exact fun _ _ => rfl
  case nil => exact fun _ _ => rfl
  case cons =>
    intro x xs ih1 ih2 h ctx
    simp only [wfBs, Bool.and_eq_true] at h
    simp only [flats, List.filterMap_append, List.append_nil, ih1 h.1, ih2 h.2]
  case enil => exact fun _ _ _ => rfl
  case econs =>
    intro c b rest ihb ihr h ctx lbl
    simp only [wfElifs, Bool.and_eq_true] at h
    simp only [flatElifs, List.filterMap_cons, List.filterMap_append, List.append_nil, plab, ihb h.1, ihr h.2]
  case none => exact fun _ _ _ => rfl
  case some =>
    intro b ih h ctx lbl
    simp only [flatElse, List.filterMap_cons, plab, ih h]

theorem plab_elifs (ctx : LCtx) (lbl : String) : ∀ (es : List (String × List BCmd)), wfElifs es = true → ∀ l ∈ flatElifs ctx lbl es, plab l = none :=
  fun es h => List.filterMap_eq_nil_iff.mp (plabs_tree.2.2.2 es h ctx lbl)

theorem plab_else (ctx : LCtx) (lbl : String) : ∀ (els : Option (List BCmd)), wfElse els = true → ∀ l ∈ flatElse ctx lbl els, plab l = none :=
  fun els h => List.filterMap_eq_nil_iff.mp (plabs_tree.2.1 els h ctx lbl)

theorem mem_labelsOf {A : List BLine} {l : String} (h : l ∈ labelsOf A) : l ∈ A.filterMap clab ∨ l ∈ A.filterMap plab := by
  rw [labelsOf_eq, List.mem_filterMap] at h
  obtain ⟨a, ha, e⟩ := h
  cases a <;> cases e
  · exact .inr (List.mem_filterMap.mpr ⟨_, ha, rfl⟩)
  · exact .inl (List.mem_filterMap.mpr ⟨_, ha, rfl⟩)

theorem resolves_of_clabels (whole : List BLine) (hn : (whole.filterMap clab).Nodup)
    (hd : ∀ l ∈ whole.filterMap clab, l ∉ whole.filterMap plab) : Resolves whole := by
  intro A l B e
  subst e
  apply afterLabel_split
  intro hm
  rcases mem_labelsOf hm with h | h
  · simp only [List.filterMap_append, List.filterMap_cons, clab] at hn
    have := (List.nodup_append.mp hn).2.2 l h l (by simp)
    exact this rfl
  · exact hd l (by simp [clab]) (by simp only [List.filterMap_append]; exact List.mem_append_left _ h)

/-- construct labels are pairwise different (`LInv`, with both label stacks empty at the end); the start code, the helper
    routines, the simple lines of the tree and `:end` define no label of their shape -/
theorem resolves_dumpLines {s : St} {cmds : List BCmd} (hi : LInv s) (hifs : s.ifs = []) (hends : s.endLabels = [])
    (wf : wfBs cmds = true)
    (hshape : dumpLines s = s.startCode.reverse ++ helperLines s ++ flats none cmds ++ [.label "end", .raw "endlocal & exit /B %_e%"]) :
    Resolves (dumpLines s) := by
  obtain ⟨hnd, _, hbd⟩ := hi.dump hifs hends
  refine resolves_of_clabels _ hnd ?_
  intro l hl hp
  have hb : third l = true := third_of_bounded (hbd l hl)
  rw [hshape] at hp
  simp only [List.filterMap_append, List.mem_append] at hp
  have hfalse : third l = false := by
    rcases hp with ((hp | hp) | hp) | hp
    · rw [plab_startLines (fun x hx => hi.startRaw x (List.mem_reverse.mp hx))] at hp
      cases hp
    · exact plab_ok (helperLines_ok s) l hp
    · rw [plabs_tree.2.2.1 cmds wf none] at hp
      cases hp
    · simp [plab] at hp
      subst hp
      rfl
  rw [hb] at hfalse
  cases hfalse

end Tsh.SemB
