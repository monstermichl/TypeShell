/-
  The definition, the function definition and the loop, walked once each for the RECORD of the runs of their parts and of the
  checks made: a pass needs the parts at environments of its own (the variables visible in a loop depend on the parsed body), so
  it reads its fact off the record (`Ran.elim`).  The records need "no panic" of the parts in every context: that is the statement
  walk at the pass that proves nothing (`anyWalk`).
-/
import TshVerif.Lemmas.ParserStmtWalk
namespace Tsh.Parser
open Tsh Tsh.Tr Tsh.LexTables

variable {E : Type} {T : Pass E} {fuel : Nat}

@[reducible] def anyPass : Pass Unit where
  In _ _ := True
  okE _ _ := True
  okEs _ _ := True
  okArgs _ _ _ := True
  okC _ _ := True
  okTag _ _ := True
  okS _ _ := True
  okSs _ _ := True
  okEl _ _ := True
  decl _ _ := ()
  push _ _ := ()
  pushOK _ := True

/-- what `ForHeader` keeps of the shape of a loop header's statements -/
def isSimple : Stmt → Bool
  | .varDef _ _ | .varDefCall _ _ | .assign _ _ | .assignCall _ _ | .sliceAssign _ _ _ => true
  | _ => false

/-- `mkVar` of `evaluateVarDefinition` -/
def mkVar (ctx : Ctx) (pfx : String) (spec : ValueType) (t : Tok) : Option Var :=
  match ctx.findVar t.val pfx ctx.global with
  | some v => if spec.dt != .unknown && !(spec.equals v.vt) then none
              else some ⟨if ctx.global then prefixed pfx t.val else t.val,
                         if v.global == ctx.global && spec.dt == .unknown then v.vt else spec, ctx.global, isPublic t.val⟩
  | none => some ⟨if ctx.global then prefixed pfx t.val else t.val, spec, ctx.global, isPublic t.val⟩

/-- the type adoption of `evaluateVarDefinition` -/
def adopt (x : Var × ValueType) : Option Var :=
  if x.1.vt.dt == .unknown then some { x.1 with vt := x.2 } else if x.1.vt.equals x.2 then some x.1 else none

/-- the names of a definition after the checks on them (parser.go counts those defined already: one name must be new; of several
    a `var` definition needs all new, a short one at least one; none twice).  Not kept: the tokens (`var`, `:=`, `=`; a `var`
    without type has `=`); in `DefRun`, which token chose values or defaults. -/
structure DefHead (ctx : Ctx) (pfx : String) (short : Bool) (names : List Tok) (spec : ValueType) (vars : List Var) : Prop where
  ne : names ≠ []
  one : names.length = 1 → ∀ t ∈ names, isNewVar ctx pfx t.val = true
  var : short = false → ∀ t ∈ names, isNewVar ctx pfx t.val = true
  new : ∃ t ∈ names, isNewVar ctx pfx t.val = true
  dup : hasDupNames names = false
  known : PT.known spec = true
  vars : names.mapM (mkVar ctx pfx spec) = some vars

/-- a successful run of `evaluateVarDefinition`.  The guard "every type is the specified one" is not recorded: `adopt`
    succeeding says it of each type. -/
inductive DefRun (fuel : Nat) (ctx : Ctx) : Stmt → Prop
  | values {pfx : String} {short : Bool} {names : List Tok} {spec : ValueType} {vars vars' : List Var} {values : List Expr} :
      DefHead ctx pfx short names spec vars → Ran (evalValues fuel ctx true) values → ValsShape true values →
      (valuesTypes values).length = vars.length → (vars.zip (valuesTypes values)).mapM adopt = some vars' →
      multiReturnTypes values = none → DefRun fuel ctx (.varDef vars' values)
  | call {pfx : String} {short : Bool} {names : List Tok} {spec : ValueType} {vars vars' : List Var} {call : Expr}
      {ts : List ValueType} :
      DefHead ctx pfx short names spec vars → Ran (evalValues fuel ctx true) [call] →
      (valuesTypes [call]).length = vars.length → (vars.zip (valuesTypes [call])).mapM adopt = some vars' →
      multiReturnTypes [call] = some ts → DefRun fuel ctx (.varDefCall vars' call)
  | defaults {pfx : String} {short : Bool} {names : List Tok} {spec : ValueType} {vars : List Var} {values : List Expr} :
      DefHead ctx pfx short names spec vars → vars.mapM (fun v => defaultVarValue v.vt) = some values →
      DefRun fuel ctx (.varDef vars values)

theorem evalVarDefinition_run (fuel : Nat) (ctx : Ctx) : Post (evalVarDefinition fuel ctx) (DefRun fuel ctx) := by
  unfold evalVarDefinition
  refine Post.bindAny fun short => ?_
  pm_let jp
  suffices key : ∀ r, Post (jp r) (DefRun fuel ctx) from
    Post.branch (Post.bindAny fun v => Post.ite' (fun _ => Post.errBind) fun _ => key ()) (key ())
  -- beta only: the `have`s of the continuation stay
  intro r; subst jp; dsimp -zeta -zetaHave only
  refine Post.bind' (varNames_post fuel) fun names hnames => Post.bindAny fun s => ?_
  pm_zeta
  split
  · exact Post.unreachable (hnames rfl)
  rename_i first rest
  pm_zeta
  pm_let jp2
  -- what the checks on the names establish
  suffices key2 : ∀ r, ((first :: rest).length = 1 → ∀ t ∈ first :: rest, isNewVar ctx s.pfx t.val = true) →
      (short = false → ∀ t ∈ first :: rest, isNewVar ctx s.pfx t.val = true) →
      (∃ t ∈ first :: rest, isNewVar ctx s.pfx t.val = true) → hasDupNames (first :: rest) = false →
      Post (jp2 r) (DefRun fuel ctx) by
    refine Post.ite' (fun hn => ?_) fun hn => Post.ite' (fun _ => Post.errBind) fun hf => ?_
    · pm_zeta
      refine Post.ite' (fun _ => Post.errBind) fun h2 => Post.ite' (fun _ => Post.errBind) fun h3 =>
        Post.ite' (fun _ => Post.errBind) fun h4 => key2 () ?_ ?_ ?_ (by simpa using h4)
      · intro h1; rw [h1] at hn; exact absurd hn (by decide)
      · intro hs t ht
        have h0 : ((first :: rest).filter fun t => !(isNewVar ctx s.pfx t.val)).length = 0 := by
          simp only [hs, Bool.not_false, Bool.and_true, decide_eq_true_eq, Nat.not_lt, Nat.le_zero_eq] at h2
          exact h2
        simpa using List.filter_eq_nil_iff.mp (List.length_eq_zero_iff.mp h0) t ht
      · have hne : ((first :: rest).filter fun t => !(isNewVar ctx s.pfx t.val)).length ≠ (first :: rest).length := by
          simpa using h3
        obtain ⟨x, hx, hpx⟩ := List.length_filter_lt_length_iff_exists.mp (Nat.lt_of_le_of_ne (List.length_filter_le ..) hne)
        exact ⟨x, hx, by simpa using hpx⟩
    · have hr : rest = [] := by
        cases rest with
        | nil => rfl
        | cons _ _ => simp at hn
      subst hr
      have hfirst : isNewVar ctx s.pfx first.val = true := by simpa using hf
      refine key2 () ?_ ?_ ⟨first, by simp, hfirst⟩ (by simp [hasDupNames])
      · intro _ t ht; simp at ht; subst ht; exact hfirst
      · intro _ t ht; simp at ht; subst ht; exact hfirst
  intro r hone hvar hsome hdup; subst jp2; dsimp -zeta -zetaHave only
  refine Post.bind' (P := fun spec => PT.known spec = true) ?_ fun spec hspec => ?_
  · refine Post.branch (Post.expect fun t _ => Post.pure' rfl) (Post.bindAny fun t => ?_)
    refine Post.bind' (P := fun st => PT.known st.1 = true) ?_ ?_
    · exact Post.branch (Post.bind' valueType_post fun vt hvt => Post.bindAny fun t' => Post.pure' (basic_known hvt))
        (Post.pure' rfl)
    rintro ⟨spec, t2⟩ hsp
    exact Post.guard fun _ => Post.branch (Post.bindAny fun _ => Post.pure' hsp) (Post.pure' hsp)
  refine Post.bindAny fun next => ?_
  pm_zeta
  pm_let mk
  refine Post.bind' (P := fun vars => DefHead ctx s.pfx short (first :: rest) spec vars)
    (Post.ofOpt fun vars h => ⟨nofun, hone, hvar, hsome, hdup, hspec, h⟩) fun vars hhead => ?_
  refine Post.branch (Post.bind' ((exprWalk (C := fun _ => True) ExprRule.any fuel).values ctx true trivial).ran fun values hvals => ?_) ?_
  · pm_zeta
    refine Post.guard fun hlen => Post.guard fun _ => ?_
    have hlen' : (valuesTypes values).length = vars.length := by simpa using hlen
    refine Post.bind' (Post.ofOpt fun vars' h => h) fun vars' hv' => ?_
    split
    · rename_i _ _ call hts
      exact Post.pure' (.call hhead hvals.1 hlen' hv' hts)
    · exact Post.pure' (.values hhead hvals.1 hvals.2.2 hlen' hv' (multi_none ‹_›))
  · exact Post.bind' (Post.ofOpt fun values h => h) fun values hv => Post.pure' (.defaults hhead hv)

theorem w_def (R : StmtRule T) (hd : ∀ {env vars vals}, T.okEs env vals → T.okS env (.varDef vars vals))
    (hcall : ∀ {env vars call}, T.okE env call → T.okS env (.varDefCall vars call)) (hnil : ∀ {env dt}, T.okE env (.sliceNew dt []))
    (fuel : Nat) (env : E) (ctx : Ctx) (hc : T.In env ctx) : Post (evalVarDefinition fuel ctx) (T.okS env) :=
  (evalVarDefinition_run fuel ctx).mono fun _ h => by
    have X := R.expr env
    have W := ((exprWalk X fuel).values ctx true hc).ok
    cases h with
    | values _ hv => exact hd (hv.elim W).1
    | call _ hv => exact hcall (X.single (hv.elim W).1)
    | defaults _ hv =>
      refine hd (X.all fun e he => ?_)
      obtain ⟨v, -, h⟩ := mapM_mem hv e he
      rcases default_lit h with rfl | rfl | rfl | rfl
      · exact X.boolLit
      · exact X.intLit
      · exact X.strLit
      · exact hnil

/-- a successful run of `evaluateFunctionDefinition`; `ctx2`: the globals and the parameters.  Not kept: of `evalParams` only `PT.basic` of the
    types (not that a parameter's name is new), the tokens, `currFunc`. -/
inductive FuncDefRun (fuel : Nat) (ctx : Ctx) : Stmt → Prop
  | mk {pfx : String} {nameTok : Tok} {params : List Var} {rets : List ValueType} {ctx2 : Ctx} {body : List Stmt} :
      ctx.global = true → ctx.findFunc nameTok.val pfx = none →
      params.all (fun p => PT.basic p.vt) = true → rets.all PT.basic = true →
      ({ ctx with vars := ctx.vars.filter fun e => e.2.global } : Ctx).addVars pfx false params = some ctx2 →
      Ran (evalBlock fuel (funcBodyCheck rets) ctx2 .function) body → funcBodyCheck rets body true = true →
      FuncDefRun fuel ctx (.funcDef (prefixed pfx nameTok.val) (isPublic nameTok.val) rets params body)

theorem evalFunctionDefinition_run (np : BlockIH anyPass fuel) (ctx : Ctx) :
    Post (evalFunctionDefinition (fuel + 1) ctx) (FuncDefRun fuel ctx) := by
  unfold evalFunctionDefinition
  refine Post.bindAny fun f => Post.unless fun hg => Post.guard fun _ => Post.expect fun nameTok _ => Post.bindAny fun s => ?_
  pm_zeta
  refine Post.guard fun hnew => Post.bindAny fun o => ?_
  pm_zeta
  refine Post.bind' (P := fun ps => ps.all (fun p => PT.basic p.vt) = true) ?_ fun params hparams => Post.bindAny fun r => ?_
  · refine Post.branch (Post.bindAny fun _ => Post.bind' (params_post _ fuel [] rfl) fun ps hps => ?_) (Post.pure' rfl)
    exact Post.expect fun c _ => Post.pure' hps
  pm_zeta
  pm_let jp
  suffices key : ∀ u, Post (jp u) (FuncDefRun fuel ctx) from Post.branch (Post.bindAny fun u => key u) (key ())
  intro u; subst jp; dsimp -zeta -zetaHave only
  refine Post.bind' (returnTypes_post fuel _ [] rfl) fun rets hrets => ?_
  refine Post.bind' (Post.ofOpt fun _ h => h) fun ctx2 h2 => ?_
  pm_zeta
  refine Post.bindAny fun s2 => Post.bindAny fun _ => Post.bind' (np.block () _ ctx2 .function trivial trivial).ran fun body hbody => ?_
  exact Post.bindAny fun s3 => Post.bindAny fun _ => Post.pure' (.mk hg (by simpa using hnew) hparams hrets h2 hbody.1 hbody.2.2)

/-- the header of `for init; cond; incr` (each part may be missing); `ctx1`: the context the initialisation leaves.  Not kept:
    `init` is a definition or `.assign`, `incr` an `.assign` (`isSimple` admits more); in `ForRun.range`, that index and value
    name are new and differ. -/
structure ForHeader (fuel : Nat) (ctx : Ctx) (pfx : String) (ctx1 : Ctx) (init : Option Stmt) (cond : Expr)
    (incr : Option Stmt) : Prop where
  init : (init = none ∧ ctx1 = ctx) ∨ ∃ st, init = some st ∧ Ran (evalStatement fuel ctx) st ∧ isSimple st = true ∧
    registerDefs ctx pfx false st = some ctx1
  cond : cond = .boolLit true ∨ Ran (evalExpression fuel ctx1) cond
  incr : ∀ st, incr = some st → Ran (evalStatement fuel ctx1) st ∧ isSimple st = true

inductive ForRun (fuel : Nat) (ctx : Ctx) : Stmt → Prop
  /-- `for i[, v] := range x` becomes a loop over the counter `i` that sets `v` at the start of its body -/
  | range {pfx : String} {idx : Var} {iterable el : Expr} {ctx1 ctx2 : Ctx} {pre body : List Stmt} :
      idx.vt = vtInt → Ran (evalExpression fuel ctx) iterable →
      ((el = .sliceEval iterable (.varEval idx) (Expr.valueType iterable).dt ∧ (Expr.valueType iterable).isSlice = true) ∨
        (el = .substr iterable (.varEval idx) none ∧ (Expr.valueType iterable).isString = true)) →
      ctx.addVars pfx false [idx] = some ctx1 →
      ((pre = [] ∧ ctx2 = ctx1) ∨ ∃ v : Var, v.vt = ⟨(Expr.valueType iterable).dt, false⟩ ∧
        ctx1.addVars pfx false [v] = some ctx2 ∧ pre = [.assign [v] [el]]) →
      Ran (evalBlock fuel (fun _ _ => true) ctx2 .for_) body →
      ForRun fuel ctx (.forS (some (.assign [idx] [.intLit 0])) (.compare "<" (.varEval idx) (.len iterable))
        (some (incDecStmt idx true)) (pre ++ body))
  | classic {pfx : String} {ctx1 : Ctx} {init incr : Option Stmt} {cond : Expr} {body : List Stmt} :
      ForHeader fuel ctx pfx ctx1 init cond incr → (Expr.valueType cond).isBool = true →
      Ran (evalBlock fuel (fun _ _ => true) ctx1 .for_) body → ForRun fuel ctx (.forS init cond incr body)

theorem evalFor_run (np : BlockIH anyPass fuel) (ctx : Ctx) : Post (evalFor (fuel + 1) ctx) (ForRun fuel ctx) := by
  have hexpr : ∀ c, Post (evalExpression fuel c) (Ran (evalExpression fuel c)) := fun c =>
    ((exprWalk (C := fun _ => True) ExprRule.any fuel).expression c trivial).ran.mono fun _ h => h.1
  have hstmt : ∀ c, Post (evalStatement fuel c) (Ran (evalStatement fuel c)) := fun c =>
    (np.statement () c trivial).ran.mono fun _ h => h.1
  have hblock : ∀ c, Post (evalBlock fuel (fun _ _ => true) c .for_) (Ran (evalBlock fuel (fun _ _ => true) c .for_)) := fun c =>
    (np.block () _ c .for_ trivial trivial).ran.mono fun _ h => h.1
  unfold evalFor
  refine Post.expect fun f _ => Post.bindAny fun t0 => Post.bindAny fun t1 => Post.bindAny fun t2 => Post.bindAny fun s => ?_
  pm_zeta
  refine Post.branch ?_ ?_
  · refine Post.bindAny fun _ => Post.guard fun _ => Post.bindAny fun n => Post.bindAny (hm := Post.branch
      (Post.bindAny fun _ => Post.expect fun v _ => Post.guard fun _ => Post.guard fun _ => Post.pure' trivial)
      (Post.pure' trivial)) fun valueName => ?_
    refine Post.expect fun si _ => Post.expect fun r _ => Post.bind' (hexpr ctx) fun iterable hit => ?_
    pm_zeta
    pm_let idx
    refine Post.bind' (P := fun el =>
        (el = .sliceEval iterable (.varEval idx) (Expr.valueType iterable).dt ∧ (Expr.valueType iterable).isSlice = true) ∨
        (el = .substr iterable (.varEval idx) none ∧ (Expr.valueType iterable).isString = true)) ?_ fun el hel => ?_
    · exact Post.ite' (fun h => Post.pure' (.inl ⟨rfl, h⟩)) fun _ => Post.ite' (fun h => Post.pure' (.inr ⟨rfl, h⟩)) fun _ => Post.err
    refine Post.bind' (Post.ofOpt fun _ h => h) fun ctx1 h1 => ?_
    refine Post.bind' (P := fun (x : Ctx × List Stmt) => (x.2 = [] ∧ x.1 = ctx1) ∨
        ∃ v : Var, v.vt = ⟨(Expr.valueType iterable).dt, false⟩ ∧ ctx1.addVars s.pfx false [v] = some x.1 ∧
          x.2 = [.assign [v] [el]]) ?_ ?_
    · refine Post.branch ?_ (Post.pure' (.inl ⟨rfl, rfl⟩))
      pm_let v
      exact Post.bind' (Post.ofOpt fun _ h => h) fun ctx2 h2 => Post.pure' (.inr ⟨v, rfl, h2, rfl⟩)
    rintro ⟨ctx2, pre⟩ hpre
    exact Post.bind' (hblock ctx2) fun body hbody => Post.pure' (.range rfl hit hel h1 hpre hbody)
  · refine Post.bindAny fun three => ?_
    refine Post.bind' (P := fun (x : Ctx × Option Stmt × Expr × Option Stmt) =>
        ForHeader fuel ctx s.pfx x.1 x.2.1 x.2.2.1 x.2.2.2) ?_ ?_
    · refine Post.branch (Post.pure' ⟨.inl ⟨rfl, rfl⟩, .inl rfl, fun _ h => nomatch h⟩) (Post.branch (Post.bindAny fun n => ?_) ?_)
      · refine Post.bind' (P := fun (x : Ctx × Option Stmt) => (x.2 = none ∧ x.1 = ctx) ∨ ∃ st, x.2 = some st ∧
            Ran (evalStatement fuel ctx) st ∧ isSimple st = true ∧ registerDefs ctx s.pfx false st = some x.1) ?_ ?_
        · refine Post.branch (Post.bind' (hstmt ctx) fun st hst => ?_) (Post.pure' (.inl ⟨rfl, rfl⟩))
          split
          · exact Post.bind' (Post.ofOpt fun _ h => h) fun c hc => Post.pure' (.inr ⟨_, rfl, hst, rfl, hc⟩)
          · exact Post.bind' (Post.ofOpt fun _ h => h) fun c hc => Post.pure' (.inr ⟨_, rfl, hst, rfl, hc⟩)
          · exact Post.pure' (.inr ⟨_, rfl, hst, rfl, rfl⟩)
          · exact Post.err
        rintro ⟨ctx1, init⟩ hinit
        refine Post.expect fun sc _ => Post.bindAny fun n2 => ?_
        refine Post.bind' (P := fun c => c = .boolLit true ∨ Ran (evalExpression fuel ctx1) c)
          (Post.branch ((hexpr ctx1).mono fun _ h => .inr h) (Post.pure' (.inl rfl))) fun cond hcond => ?_
        refine Post.expect fun sc2 _ => Post.bindAny fun n3 => Post.bind' (P := fun (o : Option Stmt) => ∀ st, o = some st →
            Ran (evalStatement fuel ctx1) st ∧ isSimple st = true) ?_ fun incr hincr => ?_
        · refine Post.branch (Post.bind' (hstmt ctx1) fun st hst => ?_) (Post.pure' fun _ h => nomatch h)
          split
          · exact Post.pure' fun _ h => Option.some.inj h ▸ ⟨hst, rfl⟩
          · exact Post.err
        exact Post.pure' ⟨hinit, hcond, hincr⟩
      · exact Post.bind' (hexpr ctx) fun c hcnd => Post.pure' ⟨.inl ⟨rfl, rfl⟩, .inr hcnd, fun _ h => nomatch h⟩
    rintro ⟨ctx1, init, cond, incr⟩ hh
    exact Post.unless fun hb => Post.bind' (hblock ctx1) fun body hbody => Post.pure' (.classic hh hb hbody)

theorem anyRule : StmtRule anyPass := by
  constructor <;> intros <;> first | trivial | exact ExprRule.any

theorem anyWalk : ∀ fuel, BlockIH anyPass fuel :=
  stmtWalk anyRule (fun fuel _ ctx _ => (evalVarDefinition_run fuel ctx).mono fun _ _ => trivial)
    (fun _ w _ ctx _ => (evalFunctionDefinition_run w ctx).mono fun _ _ => trivial)
    (fun _ w _ ctx _ => (evalFor_run w ctx).mono fun _ _ => trivial)

end Tsh.Parser
