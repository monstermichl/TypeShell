/-
  What the PARSER guarantees about the ASTs it accepts, as an executable checker (`PT.program`).

  `Model/Typed.lean` is the discipline the EMITTERS need (hypothesis of the emit-totality theorems).  This file is the
  other half: the typing facts the parser's own checks establish, read off the parser function by function and PROVED
  of the parser model in `Lemmas/ParserTyped*.lean` (`Props/C06Sem.lean`: every accepted program satisfies `PT.program`).
  The checker is also run on every AST the REAL parser returns (driver tag `PT`), so the theorem's conclusion is
  checked against the code in every correspondence run.

  `PT` is stronger than `typed` where the AST carries the information (a defined / assigned variable has the type of
  its value, slice elements and element assignments have the element type, the last statement of a value-returning
  function returns the declared types, no type outside bool / int / string / slices of them / the two pseudo types
  occurs) and WEAKER in exactly the places where the parser accepts more than the emitters take (`strict` below):
  ordering comparison of strings (accepted by the parser, refused by both emitters) and a program call in a
  single-value position (`f(@ls())`, `a, b := @x(), @y()`: its standard output is taken).
-/
import TshVerif.Model.Typed
import TshVerif.Model.Parser
namespace Tsh.PT
open Tsh Tsh.Tr

/-- a type of the language: bool, int, string, slices of them, and - never as a slice - the two pseudo types of calls
    (`unknown`: no value, `multiple`: several values / a program call) -/
def known (vt : ValueType) : Bool :=
  match vt.dt with
  | .other _ => false
  | .unknown | .multiple => !vt.isSlice
  | _ => true

/-- bool, int or string, possibly as a slice -/
def basic (vt : ValueType) : Bool := vt.dt == .bool || vt.dt == .int || vt.dt == .string

/-- the parser's comparison table (`allowedCompare`): ordering also on strings -/
def cmpAllowed (vt : ValueType) (op : String) : Bool :=
  !vt.isSlice &&
  ((vt.dt == .bool && (op == "==" || op == "!=")) ||
   ((vt.dt == .int || vt.dt == .string) &&
      (op == "==" || op == "!=" || op == "<" || op == "<=" || op == ">" || op == ">=")))

/-- a function call stands for exactly one value (every other expression does) -/
def callArity1 : Expr → Bool
  | .call _ rets _ => rets.length == 1
  | _ => true

def strT : ValueType := ⟨.string, false⟩
def intT : ValueType := ⟨.int, false⟩

/-- the value types of a call that yields several values -/
def multiTypes : Expr → Option (List ValueType)
  | .call _ rets _ => if rets.length > 1 then some rets else none
  | .app _ _ _ => some [strT, strT, intT]
  | _ => none

mutual
def expr : Expr → Bool
  | .boolLit _ | .intLit _ | .strLit _ => true
  | .varEval v => known v.vt
  | .unary op x vt => op == "!" && expr x && (Expr.valueType x).isBool && vt == Expr.valueType x
  | .binary op l r =>
      expr l && expr r && (Expr.valueType l).equals (Expr.valueType r) && binaryAllowed (Expr.valueType l) op
  | .compare op l r =>
      expr l && expr r && (Expr.valueType l).equals (Expr.valueType r) && cmpAllowed (Expr.valueType l) op
  | .logical op l r =>
      expr l && expr r && (Expr.valueType l).isBool && (Expr.valueType r).isBool && (op == "&&" || op == "||")
  | .group x => expr x
  | .call _ rets args => args_ args && rets.all basic
  | .app _ args none => args_ args
  | .app _ args (some nx) => args_ args && chain nx
  | .sliceNew dt vals => elems dt vals && basicDt dt
  | .sliceEval v i dt =>
      expr v && expr i && (Expr.valueType v).isSlice && (Expr.valueType i).isInt && dt == (Expr.valueType v).dt
  | .substr v a none => expr v && expr a && (Expr.valueType v).isString && (Expr.valueType a).isInt
  | .substr v a (some b) =>
      expr v && expr a && expr b && (Expr.valueType v).isString && (Expr.valueType a).isInt && (Expr.valueType b).isInt
  | .len x => expr x && ((Expr.valueType x).isString || (Expr.valueType x).isSlice)
  | .itoa x => expr x && (Expr.valueType x).isInt
  | .exists_ x => expr x && (Expr.valueType x).isString
  | .read x => expr x && (Expr.valueType x).isString
  | .input none => true
  | .input (some x) => expr x && (Expr.valueType x).isString
  | .copy dst src => expr src && known dst.vt && dst.vt.isSlice && dst.vt.equals (Expr.valueType src)
  | .write _ _ _ => false
  | .bad _ => false

/-- arguments of calls and builtins: typed, and not the "value" of a function without return values -/
def args_ : List Expr → Bool
  | [] => true
  | e :: rest => expr e && (Expr.valueType e).dt != .unknown && args_ rest

/-- slice literal elements -/
def elems (dt : DataType) : List Expr → Bool
  | [] => true
  | e :: rest => expr e && (Expr.valueType e).equals ⟨dt, false⟩ && elems dt rest

def chain : Expr → Bool
  | .app _ args none => args_ args
  | .app _ args (some nx) => args_ args && chain nx
  | _ => false
end

def exprs : List Expr → Bool
  | [] => true
  | e :: rest => expr e && exprs rest

/-- the values of a definition or assignment with one value per variable: typed, one value each, and a value at all (not the
    "result" of a function that returns nothing) -/
def isApp : Expr → Bool
  | .app _ _ _ => true
  | _ => false

/-- an expression that stands for a value: not the "result" of a function that returns nothing, and several values only as
    a program call (whose standard output is taken) -/
def hasValue (e : Expr) : Bool :=
  (Expr.valueType e).dt != .unknown && ((Expr.valueType e).dt != .multiple || isApp e)

def vals1 : List Expr → Bool
  | [] => true
  | e :: rest => expr e && callArity1 e && hasValue e && vals1 rest

def varsMatch : List Var → List ValueType → Bool
  | [], [] => true
  | v :: vs, t :: ts => v.vt.equals t && varsMatch vs ts
  | _, _ => false

def varsKnown (vs : List Var) : Bool := vs.all fun v => known v.vt

def appendFlag : Option Expr → Bool
  | none => true
  | some x => expr x && (Expr.valueType x).isBool

mutual
def stmt : Stmt → Bool
  | .varDef vars vals => vals1 vals && varsMatch vars (vals.map Expr.valueType) && !vars.isEmpty && varsKnown vars
  | .assign vars vals => vals1 vals && varsMatch vars (vals.map Expr.valueType) && !vars.isEmpty && varsKnown vars
  | .varDefCall vars call =>
      expr call && !vars.isEmpty && varsKnown vars &&
      (match multiTypes call with | some ts => varsMatch vars ts | none => false)
  | .assignCall vars call =>
      expr call && !vars.isEmpty && varsKnown vars &&
      (match multiTypes call with | some ts => varsMatch vars ts | none => false)
  | .sliceAssign v index value =>
      expr index && expr value && (Expr.valueType index).isInt && known v.vt && v.vt.isSlice &&
      (Expr.valueType value).equals ⟨v.vt.dt, false⟩
  | .funcDef _ _ rets params body =>
      stmts body && Parser.funcBodyCheck rets body true && rets.all basic && params.all (fun p => basic p.vt)
  | .ret vals => exprs vals
  | .ifS cond body elifs els =>
      expr cond && (Expr.valueType cond).isBool && stmts body && elifs_ elifs && stmts els
  | .forS init cond incr body =>
      opt init && expr cond && (Expr.valueType cond).isBool && opt incr && stmts body
  | .brk => true
  | .cont => true
  | .print es => args_ es
  | .panic e => expr e && (Expr.valueType e).dt != .unknown
  | .expr (.write path data append) =>
      expr path && expr data && (Expr.valueType path).isString && (Expr.valueType data).isString && appendFlag append
  | .expr e => expr e && e.isCallLike

def stmts : List Stmt → Bool
  | [] => true
  | s :: rest => stmt s && stmts rest

def opt : Option Stmt → Bool
  | none => true
  | some s => stmt s

def elifs_ : List (Expr × List Stmt) → Bool
  | [] => true
  | (e, body) :: rest => expr e && (Expr.valueType e).isBool && stmts body && elifs_ rest
end

def program (p : Program) : Bool := stmts p

/-! ### the two places where the parser accepts more than the emitters take -/

mutual
/-- no ordering comparison of strings, no program call (or call with several values) in a single-value position -/
def strictE : Expr → Bool
  | .boolLit _ | .intLit _ | .strLit _ | .varEval _ | .input none | .bad _ => true
  | .unary _ x _ | .group x | .len x | .itoa x | .exists_ x | .read x | .input (some x) => strictE x
  | .binary _ l r | .logical _ l r => strictE l && strictE r
  | .compare op l r => strictE l && strictE r && compareAllowed (Expr.valueType l) op
  | .call _ _ args => strictArgs args
  | .app _ args none => strictArgs args
  | .app _ args (some nx) => strictArgs args && strictE nx
  | .sliceNew _ vals => strictArgs vals
  | .sliceEval v i _ => strictE v && strictE i
  | .substr v a none => strictE v && strictE a
  | .substr v a (some b) => strictE v && strictE a && strictE b
  | .copy _ src => strictE src
  | .write p d none => strictE p && strictE d
  | .write p d (some a) => strictE p && strictE d && strictE a

def strictArgs : List Expr → Bool
  | [] => true
  | e :: rest => strictE e && Expr.arity e == 1 && strictArgs rest
end

def strictAll : List Expr → Bool
  | [] => true
  | e :: rest => strictE e && strictAll rest

mutual
def strictS : Stmt → Bool
  | .varDef _ vals | .assign _ vals | .ret vals => strictArgs vals
  | .varDefCall _ call | .assignCall _ call => strictE call
  | .sliceAssign _ index value => strictE index && strictE value && Expr.arity index == 1 && Expr.arity value == 1
  | .funcDef _ _ _ _ body => strictSs body
  | .ifS cond body elifs els => strictE cond && strictSs body && strictEl elifs && strictSs els
  | .forS init cond incr body => strictO init && strictE cond && strictO incr && strictSs body
  | .brk | .cont => true
  | .print es => strictAll es
  | .panic e => strictE e
  | .expr e => strictE e

def strictSs : List Stmt → Bool
  | [] => true
  | s :: rest => strictS s && strictSs rest

def strictO : Option Stmt → Bool
  | none => true
  | some s => strictS s

def strictEl : List (Expr × List Stmt) → Bool
  | [] => true
  | (e, body) :: rest => strictE e && strictSs body && strictEl rest
end
end Tsh.PT

/-! ### calls agree with the signatures of the functions they name -/
namespace Tsh.PT
open Tsh Tsh.Tr

structure Sig where
  name : String
  rets : List ValueType
  params : List ValueType
deriving DecidableEq, Repr

/-- the arguments have the parameters' types, one each -/
def argsMatch : List ValueType → List Expr → Bool
  | [], [] => true
  | p :: ps, e :: es => p.equals (Expr.valueType e) && argsMatch ps es
  | _, _ => false

def declares (F : List Sig) (n : String) (rets : List ValueType) (args : List Expr) : Bool :=
  F.any fun f => f.name == n && f.rets == rets && argsMatch f.params args

mutual
/-- every function call in the expression names a function of `F` and passes what it takes, and is typed as returning
    what it returns -/
def sigE (F : List Sig) : Expr → Bool
  | .boolLit _ | .intLit _ | .strLit _ | .varEval _ | .input none | .bad _ => true
  | .unary _ x _ | .group x | .len x | .itoa x | .exists_ x | .read x | .input (some x) => sigE F x
  | .binary _ l r | .compare _ l r | .logical _ l r => sigE F l && sigE F r
  | .call n rets args => sigEs F args && declares F n rets args
  | .app _ args none => sigEs F args
  | .app _ args (some nx) => sigEs F args && sigE F nx
  | .sliceNew _ vals => sigEs F vals
  | .sliceEval v i _ => sigE F v && sigE F i
  | .substr v a none => sigE F v && sigE F a
  | .substr v a (some b) => sigE F v && sigE F a && sigE F b
  | .copy _ src => sigE F src
  | .write p d none => sigE F p && sigE F d
  | .write p d (some a) => sigE F p && sigE F d && sigE F a

def sigEs (F : List Sig) : List Expr → Bool
  | [] => true
  | e :: rest => sigE F e && sigEs F rest
end

/-- the signature a statement declares for the statements after it -/
def declare (F : List Sig) : Stmt → List Sig
  | .funcDef name _ rets params _ => ⟨name, rets, params.map (·.vt)⟩ :: F
  | _ => F

mutual
def sigS (F : List Sig) : Stmt → Bool
  | .varDef _ vals | .assign _ vals | .ret vals | .print vals => sigEs F vals
  | .varDefCall _ call | .assignCall _ call => sigE F call
  | .sliceAssign _ index value => sigE F index && sigE F value
  | .funcDef _ _ _ _ body => sigSs F body          -- a function is not known inside its own body: no recursion
  | .ifS cond body elifs els => sigE F cond && sigSs F body && sigEl F elifs && sigSs F els
  | .forS init cond incr body => sigO F init && sigE F cond && sigO F incr && sigSs F body
  | .brk | .cont => true
  | .panic e | .expr e => sigE F e

/-- statements in order: a function is known to the statements after its definition -/
def sigSs (F : List Sig) : List Stmt → Bool
  | [] => true
  | s :: rest => sigS F s && sigSs (declare F s) rest

def sigO (F : List Sig) : Option Stmt → Bool
  | none => true
  | some s => sigS F s

def sigEl (F : List Sig) : List (Expr × List Stmt) → Bool
  | [] => true
  | (e, body) :: rest => sigE F e && sigSs F body && sigEl F rest
end

def declareAll (F : List Sig) (ss : List Stmt) : List Sig := ss.foldl declare F

/-! ### variables: every use is of a variable that a definition, parameter list or loop header visible at that place
    introduced, with the type it was introduced with

`Γ` is the list of the variables visible at a place (a `Var` carries its stored name, its type and whether it is a global).
A block's definitions end with the block, a function body starts from the globals and the parameters. -/

mutual
def useE (Γ : List Var) : Expr → Bool
  | .boolLit _ | .intLit _ | .strLit _ | .input none | .bad _ => true
  | .varEval v => Γ.contains v
  | .unary _ x _ | .group x | .len x | .itoa x | .exists_ x | .read x | .input (some x) => useE Γ x
  | .binary _ l r | .compare _ l r | .logical _ l r => useE Γ l && useE Γ r
  | .call _ _ args => useEs Γ args
  | .app _ args none => useEs Γ args
  | .app _ args (some nx) => useEs Γ args && useE Γ nx
  | .sliceNew _ vals => useEs Γ vals
  | .sliceEval v i _ => useE Γ v && useE Γ i
  | .substr v a none => useE Γ v && useE Γ a
  | .substr v a (some b) => useE Γ v && useE Γ a && useE Γ b
  | .copy dst src => Γ.contains dst && useE Γ src
  | .write p d none => useE Γ p && useE Γ d
  | .write p d (some a) => useE Γ p && useE Γ d && useE Γ a

def useEs (Γ : List Var) : List Expr → Bool
  | [] => true
  | e :: rest => useE Γ e && useEs Γ rest
end

/-- the variables visible after a statement of a list -/
def declared (Γ : List Var) : Stmt → List Var
  | .varDef vars _ | .varDefCall vars _ => vars ++ Γ
  | _ => Γ

/-- a `for … range` loop reaches the converters as a plain loop over a counter that the loop itself introduces
    (`idx = 0; idx < len(x); idx = idx + 1`): the counter, recognised by that shape -/
def rangeIdx : Option Stmt → Expr → Option Var
  | some (.assign [idx] [.intLit 0]), .compare _ (.varEval idx') (.len _) => if idx == idx' then some idx else none
  | _, _ => none

/-- … and the element variable, which the loop body starts by setting from the counter -/
def rangeElem (idx : Var) : List Stmt → Option Var
  | .assign [v] [.sliceEval _ (.varEval i) _] :: _ => if i == idx then some v else none
  | .assign [v] [.substr _ (.varEval i) none] :: _ => if i == idx then some v else none
  | _ => none

/-- the variables visible after an optional statement -/
def declaredO (Γ : List Var) : Option Stmt → List Var
  | some s => declared Γ s
  | none => Γ

/-- the variables a loop header brings in, for the condition, the step and the body -/
def forVars (Γ : List Var) (init : Option Stmt) (cond : Expr) (body : List Stmt) : List Var :=
  match rangeIdx init cond with
  | some idx => (match rangeElem idx body with | some v => [v, idx] | none => [idx]) ++ Γ
  | none => declaredO Γ init

mutual
def useS (Γ : List Var) : Stmt → Bool
  | .varDef _ vals => useEs Γ vals
  | .varDefCall _ call => useE Γ call
  | .assign vars vals => vars.all Γ.contains && useEs Γ vals
  | .assignCall vars call => vars.all Γ.contains && useE Γ call
  | .sliceAssign v index value => Γ.contains v && useE Γ index && useE Γ value
  | .funcDef _ _ _ params body => useSs (params ++ Γ.filter (·.global)) body
  | .ret vals | .print vals => useEs Γ vals
  | .ifS cond body elifs els => useE Γ cond && useSs Γ body && useEl Γ elifs && useSs Γ els
  | .forS init cond incr body =>
    ((rangeIdx init cond).isSome || useO Γ init) &&
    useE (forVars Γ init cond body) cond && useO (forVars Γ init cond body) incr && useSs (forVars Γ init cond body) body
  | .brk | .cont => true
  | .panic e | .expr e => useE Γ e

def useSs (Γ : List Var) : List Stmt → Bool
  | [] => true
  | s :: rest => useS Γ s && useSs (declared Γ s) rest

def useO (Γ : List Var) : Option Stmt → Bool
  | none => true
  | some s => useS Γ s

def useEl (Γ : List Var) : List (Expr × List Stmt) → Bool
  | [] => true
  | (e, body) :: rest => useE Γ e && useSs Γ body && useEl Γ rest
end

def declaredAll (Γ : List Var) (ss : List Stmt) : List Var := ss.foldl declared Γ

end Tsh.PT
