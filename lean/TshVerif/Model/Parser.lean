/-
  Model of /repo/parser/parser.go: recursive descent fused with type checking, name resolution,
  import linking and unused-function removal.  Function by function after the Go code; every
  `evaluateX` of the Go parser is `evalX` here.  Result classes: ok | error | panic | diverge
  (error messages are not modelled).  Recursion is by fuel (structural); fuel exhaustion is the
  `diverge` outcome and its sufficiency is a theorem, not an assumption.

  Tied to the code by the AST-stage correspondence (harness `AST` dump vs. driver `PARSE`).
-/
import TshVerif.Model.Lexer
import TshVerif.Model.Ast
import TshVerif.Model.Transpile
namespace Tsh.Parser
open Tsh Tsh.LexTables

structure Tok where
  ty : Nat
  val : String
deriving Repr, Inhabited, DecidableEq

def Tok.zero : Tok := { ty := 0, val := "" }

inductive Scope | program | function | if_ | for_ | switch_
deriving Repr, DecidableEq

structure FuncInfo where
  name : String
  rets : List ValueType
  params : List Var
  pub : Bool
deriving Repr

structure Ctx where
  imports : List (String × String) := []
  vars : List (String × Var) := []
  funcs : List (String × FuncInfo) := []
  scopes : List Scope := []          -- innermost first
deriving Repr

def assocGet {β} (m : List (String × β)) (k : String) : Option β := (m.find? (·.1 == k)).map (·.2)
def assocSet {β} (m : List (String × β)) (k : String) (v : β) : List (String × β) :=
  if m.any (·.1 == k) then m.map (fun e => if e.1 == k then (k, v) else e) else m ++ [(k, v)]

namespace Ctx
def global (c : Ctx) : Bool := c.scopes.head? == some .program
def findScope (c : Ctx) (s : Scope) : Bool := c.scopes.contains s
def push (c : Ctx) (s : Scope) : Ctx := { c with scopes := s :: c.scopes }
end Ctx

/-- package-level `buildPrefixedName(prefix, funcName)` -/
def prefixed (pfx name : String) : String :=
  if pfx.length > 0 then
    let p := pfx ++ "_"
    if name.startsWith p then name else p ++ name
  else name

/-- `context.buildPrefixedName`; `none` = error -/
def Ctx.buildName (c : Ctx) (name pfx : String) (global checkExistence : Bool) : Option String :=
  if name.length == 0 then none else
  if pfx.length > 0 && global then
    match assocGet c.imports pfx with
    | some h => some (prefixed h name)
    | none => if checkExistence then none else some (prefixed "" name)
  else some name

/-- `findVariable`: first under the name as is (only if `global` is false), then under the
    prefixed name (globals of an imported file) -/
def Ctx.findVar (c : Ctx) (name pfx : String) (global : Bool) : Option Var :=
  match c.buildName name pfx global true with
  | none => none
  | some k =>
    match assocGet c.vars k with
    | some v => some v
    | none =>
      match c.buildName name pfx true true with
      | some k' => assocGet c.vars k'
      | none => none

def Ctx.findFunc (c : Ctx) (name pfx : String) : Option FuncInfo :=
  match c.buildName name pfx true true with
  | some k => assocGet c.funcs k
  | none => none

/-- `addVariables`; `none` = error ("no name provided") -/
def Ctx.addVars (c : Ctx) (pfx : String) (global : Bool) (vs : List Var) : Option Ctx :=
  vs.foldlM (fun (c : Ctx) v =>
    match c.buildName v.name pfx global false with
    | some k => some { c with vars := assocSet c.vars k v }
    | none => none) c

def Ctx.addFunc (c : Ctx) (pfx : String) (global : Bool) (f : FuncInfo) : Option Ctx :=
  match c.buildName f.name pfx global false with
  | some k => some { c with funcs := assocSet c.funcs k f }
  | none => none

/-! ### parser state and monad -/

structure PSt where
  toks : Array Tok
  idx : Nat := 0
  pfx : String := ""
  currFunc : String := ""
  usedFuncs : List (String × List String) := []
deriving Repr

inductive PRes (α : Type)
  | ok (a : α) (s : PSt)
  | error
  | panic
  | diverge

def PM (α : Type) := PSt → PRes α

instance : Monad PM where
  pure a := fun s => .ok a s
  bind x f := fun s => match x s with
    | .ok a s' => f a s'
    | .error => .error
    | .panic => .panic
    | .diverge => .diverge

def err {α} : PM α := fun _ => .error
def pan {α} : PM α := fun _ => .panic
def div {α} : PM α := fun _ => .diverge
def getS : PM PSt := fun s => .ok s s
def setS (s : PSt) : PM Unit := fun _ => .ok () s

def peekAt (k : Nat) : PM Tok := fun s => .ok (s.toks.getD (s.idx + k) Tok.zero) s
def peek : PM Tok := peekAt 0
def eat : PM Tok := fun s => .ok (s.toks.getD s.idx Tok.zero) { s with idx := s.idx + 1 }

def ofOpt {α} (o : Option α) : PM α := match o with | some a => pure a | none => err

/-- `findAllowed(search, allowed...)` from the current index: found? -/
def findAllowed (search : Nat) (allowed : List Nat) : PM Bool := fun s =>
  let rec go (i : Nat) (fuel : Nat) : Bool :=
    match fuel with
    | 0 => false
    | f + 1 =>
      if h : i < s.toks.size then
        let t := s.toks[i]
        if t.ty == search then true
        else if allowed.contains t.ty then go (i + 1) f else false
      else false
  .ok (go s.idx (s.toks.size + 1)) s

/-- `findBefore(search, before...)`: found before any of `before`? -/
def findBefore (search : Nat) (before : List Nat) : PM Bool := fun s =>
  let rec go (i : Nat) (fuel : Nat) : Bool :=
    match fuel with
    | 0 => false
    | f + 1 =>
      if h : i < s.toks.size then
        let t := s.toks[i]
        if t.ty == search then true
        else if before.contains t.ty then false else go (i + 1) f
      else false
  .ok (go s.idx (s.toks.size + 1)) s

def isShortVarInit : PM Bool := findAllowed TT_SHORT_INIT_OPERATOR [TT_IDENTIFIER, TT_COMMA]

def isPublic (name : String) : Bool :=
  match name.toList with
  | c :: _ => c.isUpper
  | [] => false

/-- `strconv.Atoi` on a NUMBER_LITERAL value (`-?\d+(\.\d+)?`): decimal int64, else error -/
def atoi (s : String) : Option Int :=
  match s.toInt? with
  | some n => if -9223372036854775808 ≤ n ∧ n ≤ 9223372036854775807 then some n else none
  | none => none

def typeOfName (s : String) : Option DataType :=
  if s == "bool" then some .bool else if s == "int" then some .int
  else if s == "string" then some .string else if s == "error" then some .string else none

def vtUnknown : ValueType := ⟨.unknown, false⟩

open Tsh.Tr (Expr.valueType fnValueType)

def allowedBinary (t : ValueType) : List String :=
  if t.isSlice then [] else
  match t.dt with
  | .int => ["*", "/", "%", "+", "-"]
  | .string => ["+"]
  | _ => []

def allowedCompare (t : ValueType) : List String :=
  if t.isSlice then [] else
  match t.dt with
  | .bool => ["==", "!="]
  | .int => ["==", "!=", "<", "<=", ">", ">="]
  | .string => ["==", "!=", "<", "<=", ">", ">="]
  | _ => []

def defaultVarValue (vt : ValueType) : Option Expr :=
  if !vt.isSlice then
    match vt.dt with
    | .bool => some (.boolLit false)
    | .int => some (.intLit 0)
    | .string => some (.strLit "")
    | _ => none
  else some (.sliceNew vt.dt [])

def incDecStmt (v : Var) (inc : Bool) : Stmt :=
  .assign [v] [.binary (if inc then "+" else "-") (.varEval v) (.intLit 1)]

/-- `checkNewVariableNameToken`: true = the name is still free -/
def isNewVar (ctx : Ctx) (pfx name : String) : Bool := (ctx.findVar name pfx ctx.global).isNone

def evalVarNames : Nat → PM (List Tok)
  | 0 => div
  | fuel + 1 => do
    let t ← eat
    if t.ty != TT_IDENTIFIER then err else
    let n ← peek
    if n.ty != TT_COMMA then pure [t] else do
      let _ ← eat
      let rest ← evalVarNames fuel
      pure (t :: rest)

def evalValueType : PM ValueType := do
  let t ← peek
  let (isSlice, t) ← (if t.ty == TT_OPENING_SQUARE_BRACKET then do
      let _ ← eat
      let c ← eat
      if c.ty != TT_CLOSING_SQUARE_BRACKET then err else do
        let n ← peek
        pure (true, n)
    else pure (false, t))
  if t.ty != TT_DATA_TYPE then err else do
    let _ ← eat
    match typeOfName t.val with
    | some dt => pure ⟨dt, isSlice⟩
    | none => err

/-- is the expression a call (FunctionCall or AppCall) with more than one return type? -/
def multiReturnTypes (vals : List Expr) : Option (List ValueType) :=
  match vals with
  | [.call _ rets _] => if rets.length > 1 then some rets else none
  | [.app _ _ _] => some [⟨.string, false⟩, ⟨.string, false⟩, ⟨.int, false⟩]
  | _ => none

def valuesTypes (vals : List Expr) : List ValueType :=
  match multiReturnTypes vals with
  | some ts => ts
  | none => vals.map Expr.valueType

def recordCall (name : String) : PM Unit := fun s =>
  let cur := s.currFunc
  let lst := (assocGet s.usedFuncs cur).getD []
  let lst' := if lst.contains name then lst else lst ++ [name]
  .ok () { s with usedFuncs := assocSet s.usedFuncs cur lst' }

structure Callbacks where
  /-- the function-body callback of `evaluateFunctionDefinition`: (statements so far, last?) → ok? -/
  check : List Stmt → Bool → Bool

def noCallback : Callbacks := ⟨fun _ _ => true⟩

/-- `evaluateVarEvaluation` -/
def evalVarEvaluation (ctx : Ctx) : PM Expr := do
  let t ← eat
  if t.ty != TT_IDENTIFIER then err else
  let s ← getS
  match ctx.findVar t.val s.pfx ctx.global with
  | some v => pure (.varEval v)
  | none => err

mutual

/-- `evaluateValues`; `first` = no value has been parsed before this one -/
def evalValues (fuel : Nat) (ctx : Ctx) (first : Bool := true) : PM (List Expr) :=
  match fuel with
  | 0 => div
  | fuel + 1 => do
    let e ← evalExpression fuel ctx
    let next ← peek
    let retLen : Int := match e with
      | .call _ rets _ => rets.length
      | _ => -1
    if retLen == 0 then err else
    if retLen > 1 && !first then err else
    -- only a call itself can stand for no value or for several values; any other expression of such a type (a call in
    -- brackets) is no value
    if (Expr.valueType e).dt == .unknown ||
       ((Expr.valueType e).dt == .multiple && !(match e with | .call _ _ _ | .app _ _ _ => true | _ => false)) then err else
    if next.ty != TT_COMMA then pure [e] else do
      let _ ← eat
      if retLen > 1 then err else do
        let rest ← evalValues fuel ctx false
        pure (e :: rest)

/-- argument list of a builtin: expressions separated by commas up to (not including) `)` -/
def evalBuiltinArgs (fuel : Nat) (ctx : Ctx) : PM (List Expr) :=
  match fuel with
  | 0 => div
  | fuel + 1 => do
    let e ← evalExpression fuel ctx
    if (Expr.valueType e).dt == .unknown then err else
    let next ← peek
    if next.ty == TT_COMMA then do
      let _ ← eat
      let rest ← evalBuiltinArgs fuel ctx
      pure (e :: rest)
    else if next.ty == TT_CLOSING_ROUND_BRACKET then pure [e]
    else err

/-- `evaluateBuiltInFunction` up to the callout: keyword `(` args `)` with arity check -/
def evalBuiltin (fuel : Nat) (ctx : Ctx) (tokenType : Nat) (minArgs : Nat) (maxArgs : Option Nat) : PM (List Expr) :=
  match fuel with
  | 0 => div
  | fuel + 1 => do
    let kw ← eat
    if kw.ty != tokenType then err else
    let o ← eat
    if o.ty != TT_OPENING_ROUND_BRACKET then err else
    let n ← peek
    let args ← (if n.ty != TT_CLOSING_ROUND_BRACKET then evalBuiltinArgs fuel ctx else pure [])
    if args.length < minArgs then err else
    if (match maxArgs with | some m => decide (args.length > m) | none => false) then err else
    let c ← eat
    if c.ty != TT_CLOSING_ROUND_BRACKET then err else pure args

/-- `evaluateArguments`: `(` args `)`; `params = none` means unchecked (app calls) -/
def evalArguments (fuel : Nat) (ctx : Ctx) (params : Option (List Var)) : PM (List Expr) :=
  match fuel with
  | 0 => div
  | fuel + 1 => do
    let o ← eat
    if o.ty != TT_OPENING_ROUND_BRACKET then err else
    let args ← evalArgLoop fuel ctx params []
    match params with
    | some ps => if args.length != ps.length then err else pure ()
    | none => pure ()
    let c ← eat
    if c.ty != TT_CLOSING_ROUND_BRACKET then err else pure args

def evalArgLoop (fuel : Nat) (ctx : Ctx) (params : Option (List Var)) (acc : List Expr) : PM (List Expr) :=
  match fuel with
  | 0 => div
  | fuel + 1 => do
    let n ← peek
    if n.ty == TT_CLOSING_ROUND_BRACKET then pure acc else
    let e ← evalExpression fuel ctx
    let acc := acc ++ [e]
    if (Expr.valueType e).dt == .unknown then err else
    match params with
    | some ps =>
      if acc.length > ps.length then err else
      match ps[acc.length - 1]? with
      | none => pan
      | some p => if !(p.vt.equals (Expr.valueType e)) then err else evalArgTail fuel ctx params acc
    | none => evalArgTail fuel ctx params acc

def evalArgTail (fuel : Nat) (ctx : Ctx) (params : Option (List Var)) (acc : List Expr) : PM (List Expr) :=
  match fuel with
  | 0 => div
  | fuel + 1 => do
    let n ← peek
    if n.ty != TT_COMMA && n.ty != TT_CLOSING_ROUND_BRACKET then
      -- `err = …; break`: the length check runs first, then the error is returned
      err
    else if n.ty == TT_COMMA then do
      let _ ← eat
      evalArgLoop fuel ctx params acc
    else evalArgLoop fuel ctx params acc

/-- `evaluateFunctionCall` -/
def evalFunctionCall (fuel : Nat) (ctx : Ctx) : PM Expr :=
  match fuel with
  | 0 => div
  | fuel + 1 => do
    let first ← eat
    let dot ← peek
    let (alias, nameTok) ← (if dot.ty == TT_DOT then do
        let _ ← eat
        let n ← eat
        pure (first.val, n)
      else pure ("", first))
    if nameTok.ty != TT_IDENTIFIER then err else
    let s ← getS
    let pfx := if alias.length > 0 then alias else s.pfx
    match ctx.findFunc nameTok.val pfx with
    | none => err
    | some f => do
      let args ← evalArguments fuel ctx (some f.params)
      recordCall f.name
      pure (.call f.name f.rets args)

/-- `evaluateAppCall` -/
def evalAppCall (fuel : Nat) (ctx : Ctx) : PM Expr :=
  match fuel with
  | 0 => div
  | fuel + 1 => do
    let at_ ← eat
    if at_.ty != TT_AT then err else
    let n ← eat
    if n.ty != TT_IDENTIFIER && n.ty != TT_STRING_LITERAL then err else
    let args ← evalArguments fuel ctx none
    let p ← peek
    if p.ty == TT_PIPE then do
      let _ ← eat
      let next ← evalAppCall fuel ctx
      pure (.app n.val args (some next))
    else pure (.app n.val args none)

/-- `evaluateSliceInstantiation` -/
def evalSliceInstantiation (fuel : Nat) (ctx : Ctx) : PM Expr :=
  match fuel with
  | 0 => div
  | fuel + 1 => do
    let vt ← evalValueType
    if !vt.isSlice then err else
    let o ← eat
    if o.ty != TT_OPENING_CURLY_BRACKET then err else
    let n ← peek
    let vals ← (if n.ty != TT_CLOSING_CURLY_BRACKET then evalSliceElems fuel ctx vt.dt else pure [])
    let c ← eat
    if c.ty != TT_CLOSING_CURLY_BRACKET then err else pure (.sliceNew vt.dt vals)

def evalSliceElems (fuel : Nat) (ctx : Ctx) (dt : DataType) : PM (List Expr) :=
  match fuel with
  | 0 => div
  | fuel + 1 => do
    let e ← evalExpression fuel ctx
    if !((Expr.valueType e).equals ⟨dt, false⟩) then err else
    let n ← peek
    if n.ty == TT_COMMA then do
      let _ ← eat
      let rest ← evalSliceElems fuel ctx dt
      pure (e :: rest)
    else if n.ty == TT_CLOSING_CURLY_BRACKET then pure [e]
    else err

/-- `evaluateSubscript` (only reached for IDENTIFIER `[`) -/
def evalSubscript (fuel : Nat) (ctx : Ctx) : PM Expr :=
  match fuel with
  | 0 => div
  | fuel + 1 => do
    let vt0 ← peek
    let value ← (if vt0.ty == TT_IDENTIFIER then evalVarEvaluation ctx
                 else if vt0.ty == TT_STRING_LITERAL then evalExpression fuel ctx else err)
    let valueType := Expr.valueType value
    let isSlice := valueType.isSlice
    if !isSlice && valueType.dt != .string then err else
    let o ← eat
    if o.ty != TT_OPENING_SQUARE_BRACKET then err else
    let n ← peek
    let gotRange0 := n.ty == TT_COLON
    let start ← (if gotRange0 then do let _ ← eat; pure (Expr.intLit 0) else evalExpression fuel ctx)
    if !(Expr.valueType start).isInt then err else
    let n ← peek
    let gotRange ← (if n.ty == TT_COLON then
        (if gotRange0 then err else do let _ ← eat; pure true)
      else pure gotRange0)
    if gotRange && isSlice then err else
    let n ← peek
    let stop ← (if n.ty == TT_CLOSING_SQUARE_BRACKET then do
        let _ ← eat
        pure (if gotRange then Expr.binary "-" (.len value) (.intLit 1) else start)
      else do
        let e ← evalExpression fuel ctx
        let c ← eat
        if c.ty != TT_CLOSING_SQUARE_BRACKET then err else pure (Expr.binary "-" e (.intLit 1)))
    if !(Expr.valueType stop).isInt then err else
    if !isSlice then pure (.substr value start (if gotRange then some stop else none))
    else pure (.sliceEval value start valueType.dt)

/-- `evaluateSingleExpression` -/
def evalSingle (fuel : Nat) (ctx : Ctx) : PM Expr :=
  match fuel with
  | 0 => div
  | fuel + 1 => do
    let t ← peek
    if t.ty == TT_BOOL_LITERAL then do
      let _ ← eat
      -- strconv.ParseBool of "true"/"false"
      pure (.boolLit (t.val == "true"))
    else if t.ty == TT_NUMBER_LITERAL then do
      let _ ← eat
      match atoi t.val with
      | some n => pure (.intLit n)
      | none => err
    else if t.ty == TT_NIL_LITERAL then do let _ ← eat; pure (.strLit "")
    else if t.ty == TT_STRING_LITERAL then do let _ ← eat; pure (.strLit t.val)
    else if t.ty == TT_OPENING_ROUND_BRACKET then do
      let _ ← eat
      let child ← evalExpression fuel ctx
      let c ← eat
      if c.ty != TT_CLOSING_ROUND_BRACKET then err else pure (.group child)
    else if t.ty == TT_OPENING_SQUARE_BRACKET then evalSliceInstantiation fuel ctx
    else if t.ty == TT_INPUT then do
      let args ← evalBuiltin fuel ctx TT_INPUT 0 (some 1)
      match args with
      | [] => pure (.input none)
      | p :: _ => if !(Expr.valueType p).isString then err else pure (.input (some p))
    else if t.ty == TT_READ then do
      let args ← evalBuiltin fuel ctx TT_READ 1 (some 1)
      match args with
      | [p] => if !(Expr.valueType p).isString then err else pure (.read p)
      | _ => pan
    else if t.ty == TT_COPY then do
      let args ← evalBuiltin fuel ctx TT_COPY 2 (some 2)
      match args with
      | [dst, src] =>
        match dst with
        | .varEval v =>
          if !(Expr.valueType dst).isSlice then err
          else if !(Expr.valueType src).isSlice then err
          else if !((Expr.valueType dst).equals (Expr.valueType src)) then err
          else pure (.copy v src)
        | _ => err
      | _ => pan
    else if t.ty == TT_ITOA then do
      let args ← evalBuiltin fuel ctx TT_ITOA 1 (some 1)
      match args with
      | [v] => if !(Expr.valueType v).isInt then err else pure (.itoa v)
      | _ => pan
    else if t.ty == TT_EXISTS then do
      let args ← evalBuiltin fuel ctx TT_EXISTS 1 (some 1)
      match args with
      | [v] => if !(Expr.valueType v).isString then err else pure (.exists_ v)
      | _ => pan
    else if t.ty == TT_LEN then do
      let args ← evalBuiltin fuel ctx TT_LEN 1 (some 1)
      match args with
      | [v] => if !(Expr.valueType v).isSlice && !(Expr.valueType v).isString then err else pure (.len v)
      | _ => pan
    else if t.ty == TT_AT then evalAppCall fuel ctx
    else if t.ty == TT_IDENTIFIER then do
      let n ← peekAt 1
      if n.ty == TT_OPENING_ROUND_BRACKET || n.ty == TT_DOT then evalFunctionCall fuel ctx
      else if n.ty == TT_OPENING_SQUARE_BRACKET then evalSubscript fuel ctx
      else evalVarEvaluation ctx
    else err

/-- `evaluateUnaryOperation` -/
def evalUnary (fuel : Nat) (ctx : Ctx) : PM Expr :=
  match fuel with
  | 0 => div
  | fuel + 1 => do
    let t ← peek
    let negate := t.ty == TT_UNARY_OPERATOR && t.val == "!"
    if negate then (do let _ ← eat; pure ()) else pure ()
    let e ← evalSingle fuel ctx
    if negate then
      if !(Expr.valueType e).isBool then err else pure (.unary "!" e (Expr.valueType e))
    else pure e

/-- `evaluateBinaryOperation(ops, higher)`: level 0 = multiplication (higher = unary), 1 = addition -/
def evalBinary (fuel : Nat) (ctx : Ctx) (level : Nat) : PM Expr :=
  match fuel with
  | 0 => div
  | fuel + 1 => do
    let left ← (if level == 0 then evalUnary fuel ctx else evalBinary fuel ctx 0)
    evalBinaryLoop fuel ctx level left

def evalBinaryLoop (fuel : Nat) (ctx : Ctx) (level : Nat) (left : Expr) : PM Expr :=
  match fuel with
  | 0 => div
  | fuel + 1 => do
    let ops := if level == 0 then ["*", "/", "%"] else ["+", "-"]
    let t ← peek
    if t.ty != TT_BINARY_OPERATOR || !ops.contains t.val then pure left else do
      let _ ← eat
      let right ← (if level == 0 then evalUnary fuel ctx else evalBinary fuel ctx 0)
      let lt := Expr.valueType left
      if !(lt.equals (Expr.valueType right)) then err else
      if !(allowedBinary lt).contains t.val then err else
      evalBinaryLoop fuel ctx level (.binary t.val left right)

/-- `evaluateComparison` (right-recursive on itself) -/
def evalComparison (fuel : Nat) (ctx : Ctx) : PM Expr :=
  match fuel with
  | 0 => div
  | fuel + 1 => do
    let left ← evalBinary fuel ctx 1
    let t ← peek
    if t.ty == TT_COMPARE_OPERATOR then do
      let _ ← eat
      let right ← evalComparison fuel ctx
      let lt := Expr.valueType left
      if !(lt.equals (Expr.valueType right)) then err else
      if !(allowedCompare lt).contains t.val then err else
      pure (.compare t.val left right)
    else pure left

/-- `evaluateLogicalOperation(op, higher)`: level 0 = && (higher = comparison), 1 = || -/
def evalLogical (fuel : Nat) (ctx : Ctx) (level : Nat) : PM Expr :=
  match fuel with
  | 0 => div
  | fuel + 1 => do
    let left ← (if level == 0 then evalComparison fuel ctx else evalLogical fuel ctx 0)
    evalLogicalLoop fuel ctx level left

def evalLogicalLoop (fuel : Nat) (ctx : Ctx) (level : Nat) (left : Expr) : PM Expr :=
  match fuel with
  | 0 => div
  | fuel + 1 => do
    let op := if level == 0 then "&&" else "||"
    let t ← peek
    if t.ty != TT_LOGICAL_OPERATOR || t.val != op then pure left else
    if !(Expr.valueType left).isBool then err else do
      let _ ← eat
      let right ← (if level == 0 then evalComparison fuel ctx else evalLogical fuel ctx 0)
      if !(Expr.valueType right).isBool then err else
      evalLogicalLoop fuel ctx level (.logical t.val left right)

/-- `evaluateExpression` -/
def evalExpression (fuel : Nat) (ctx : Ctx) : PM Expr :=
  match fuel with
  | 0 => div
  | fuel + 1 => evalLogical fuel ctx 1

end

/-! ### statements -/

def vtInt : ValueType := ⟨.int, false⟩

/-- register the definitions a statement introduces (`evaluateBlockContent`, `evaluateFor`) -/
def registerDefs (ctx : Ctx) (pfx : String) (global : Bool) (st : Stmt) : Option Ctx :=
  match st with
  | .varDef vars _ => ctx.addVars pfx global vars
  | .varDefCall vars _ => ctx.addVars pfx global vars
  | .funcDef name pub rets params _ => ctx.addFunc pfx global ⟨name, rets, params, pub⟩
  | _ => some ctx

/-- some name occurs twice in the list -/
def hasDupNames : List Tok → Bool
  | [] => false
  | t :: rest => rest.any (fun u => u.val == t.val) || hasDupNames rest

/-- `evaluateVarDefinition` -/
def evalVarDefinition (fuel : Nat) (ctx : Ctx) : PM Stmt := do
  let short ← isShortVarInit
  if !short then do
    let v ← eat
    if v.ty != TT_VAR_DEFINITION then err else pure ()
  else pure ()
  let names ← evalVarNames fuel
  let s ← getS
  let pfx := s.pfx
  match names with
  | [] => pan
  | first :: _ =>
  let n := names.length
  if n > 1 then do
    let already := (names.filter fun t => !(isNewVar ctx pfx t.val)).length
    if already > 0 && !short then err
    else if already == n then err
    else if hasDupNames names then err else pure ()        -- fix ebdb224: a definition lists every name once
  else
    if !(isNewVar ctx pfx first.val) then err else pure ()
  let specified ← (if short then do
      let t ← eat
      if t.ty != TT_SHORT_INIT_OPERATOR then err else pure vtUnknown
    else do
      let t ← peek
      let (spec, t) ← (if t.ty == TT_DATA_TYPE || t.ty == TT_OPENING_SQUARE_BRACKET then do
          let vt ← evalValueType
          let t' ← peek
          pure (vt, t')
        else pure (vtUnknown, t))
      if spec.dt == .unknown && t.ty != TT_ASSIGN_OPERATOR then err
      else if t.ty == TT_ASSIGN_OPERATOR then do let _ ← eat; pure spec
      else pure spec)
  let next ← peek
  let global := ctx.global
  -- fill the variables (type possibly still unknown)
  let mkVar (t : Tok) : Option Var :=
    match ctx.findVar t.val pfx global with
    | some v => if specified.dt != .unknown && !(specified.equals v.vt) then none
                else some ⟨if global then prefixed pfx t.val else t.val,
                           -- a name that exists on the same level is assigned to: it keeps its type
                           if v.global == global && specified.dt == .unknown then v.vt else specified,
                           global, isPublic t.val⟩
    | none => some ⟨if global then prefixed pfx t.val else t.val, specified, global, isPublic t.val⟩
  let vars ← ofOpt (names.mapM mkVar)
  if next.ty != TT_NEWLINE && next.ty != TT_EOF then do
    let values ← evalValues fuel ctx
    let types := valuesTypes values
    if types.length != vars.length then err else
    if specified.dt != .unknown && !(types.all fun t => t.equals specified) then err else
    let vars' ← ofOpt ((vars.zip types).mapM fun (v, t) =>
      if v.vt.dt == .unknown then some { v with vt := t } else if v.vt.equals t then some v else none)
    match multiReturnTypes values, values with
    | some _, [call] => pure (.varDefCall vars' call)
    | _, _ => pure (.varDef vars' values)
  else do
    let values ← ofOpt (vars.mapM fun v => defaultVarValue v.vt)
    pure (.varDef vars values)

/-- `evaluateCompoundAssignment` -/
def evalCompoundAssignment (fuel : Nat) (ctx : Ctx) : PM Stmt := do
  let names ← evalVarNames fuel
  match names with
  | [nameTok] => do
    let a ← eat
    if a.ty != TT_COMPOUND_ASSIGN_OPERATOR then err else
    let values ← evalValues fuel ctx
    let types := valuesTypes values
    if types.length > 1 then err else
    let s ← getS
    match ctx.findVar nameTok.val s.pfx ctx.global, types, values with
    | some v, [t], value :: _ =>
      if !(t == v.vt) then err else
      let op := (a.val.take 1).toString
      if !(allowedBinary t).contains op then err else
      pure (.assign [v] [.binary op (.varEval v) value])
    | none, _, _ => err
    | _, _, _ => pan
  | [] => pan
  | _ => err

/-- `evaluateVarAssignment` -/
def evalVarAssignment (fuel : Nat) (ctx : Ctx) : PM Stmt := do
  let names ← evalVarNames fuel
  let a ← eat
  if a.ty != TT_ASSIGN_OPERATOR then err else
  let values ← evalValues fuel ctx
  let types := valuesTypes values
  if names.length != types.length then err else
  let s ← getS
  let vars ← ofOpt ((names.zip types).mapM fun (t, vt) =>
    match ctx.findVar t.val s.pfx ctx.global with
    | some v => if vt == v.vt then some v else none
    | none => none)
  match multiReturnTypes values, values with
  | some _, [call] => pure (.assignCall vars call)
  | _, _ => pure (.assign vars values)

/-- `evaluateSliceAssignment` -/
def evalSliceAssignment (fuel : Nat) (ctx : Ctx) : PM Stmt := do
  let nameTok ← eat
  if nameTok.ty != TT_IDENTIFIER then err else
  let s ← getS
  match ctx.findVar nameTok.val s.pfx ctx.global with
  | none => err
  | some v =>
    if !v.vt.isSlice then err else do
    let o ← eat
    if o.ty != TT_OPENING_SQUARE_BRACKET then err else
    let index ← evalExpression fuel ctx
    if !(Expr.valueType index).isInt then err else
    let c ← eat
    if c.ty != TT_CLOSING_SQUARE_BRACKET then err else
    let a ← eat
    if a.ty != TT_ASSIGN_OPERATOR then err else
    let value ← evalExpression fuel ctx
    if !((Expr.valueType value).equals ⟨v.vt.dt, false⟩) then err else
    pure (.sliceAssign v index value)

/-- `evaluateIncrementDecrement` -/
def evalIncDec (ctx : Ctx) : PM Stmt := do
  let t ← eat
  if t.ty != TT_IDENTIFIER then err else
  let s ← getS
  match ctx.findVar t.val s.pfx ctx.global with
  | none => err
  | some v =>
    if !v.vt.isInt then err else do
    let o ← eat
    if o.ty == TT_INCREMENT_OPERATOR then pure (incDecStmt v true)
    else if o.ty == TT_DECREMENT_OPERATOR then pure (incDecStmt v false)
    else err

/-- `evaluateParams` -/
def evalParams : Nat → Ctx → List Var → PM (List Var)
  | 0, _, _ => div
  | fuel + 1, ctx, acc => do
    let t ← peek
    if t.ty == TT_CLOSING_ROUND_BRACKET then pure acc else
    if t.ty != TT_IDENTIFIER then err else
    let _ ← eat
    let s ← getS
    if (ctx.findVar t.val s.pfx false).isSome || acc.any (·.name == t.val) then err else
    let vt ← evalValueType
    let n ← peek
    if n.ty != TT_COMMA && n.ty != TT_CLOSING_ROUND_BRACKET then err else do
      if n.ty == TT_COMMA then (do let _ ← eat; pure ()) else pure ()
      evalParams fuel ctx (acc ++ [⟨t.val, vt, false, false⟩])

/-- return types of a function header -/
def evalReturnTypes : Nat → Bool → List ValueType → PM (List ValueType)
  | 0, _, _ => div
  | fuel + 1, multiple, acc => do
    let t ← peek
    let acc ← (if t.ty == TT_DATA_TYPE || t.ty == TT_OPENING_SQUARE_BRACKET then do
        let vt ← evalValueType
        pure (acc ++ [vt])
      else pure acc)
    if !multiple then pure acc else do
      let n ← eat
      if n.ty == TT_CLOSING_ROUND_BRACKET then pure acc
      else if n.ty != TT_COMMA then err
      else evalReturnTypes fuel multiple acc

/-- the function-body callback of `evaluateFunctionDefinition` -/
def funcBodyCheck (rets : List ValueType) (stmts : List Stmt) (last : Bool) : Bool :=
  let lastStmt := stmts.getLast?
  if rets.length > 0 then
    if last then
      match lastStmt with
      | some (.ret vals) =>
        vals.length == rets.length && (vals.zip rets).all fun (v, t) => (Expr.valueType v).equals t
      | _ => false
    else true
  else
    match lastStmt with
    | some (.ret _) => false
    | _ => true

mutual

/-- `evaluateBlockContent` -/
def evalBlockContent (fuel : Nat) (terms : List Nat) (cb : List Stmt → Bool → Bool) (ctx : Ctx) (scope : Scope) : PM (List Stmt) :=
  match fuel with
  | 0 => div
  | fuel + 1 => evalBlockLoop fuel terms cb (ctx.push scope) []

def evalBlockLoop (fuel : Nat) (terms : List Nat) (cb : List Stmt → Bool → Bool) (ctx : Ctx) (acc : List Stmt) : PM (List Stmt) :=
  match fuel with
  | 0 => div
  | fuel + 1 => do
    let t ← peek
    if terms.contains t.ty then
      if cb acc true then pure acc else err
    else do
      let (ctx, acc) ← (if t.ty == TT_NEWLINE then pure (ctx, acc) else do
          let st ← evalStatement fuel ctx
          let s ← getS
          let ctx ← ofOpt (registerDefs ctx s.pfx ctx.global st)
          let acc := acc ++ [st]
          if cb acc false then pure (ctx, acc) else err)
      let n ← peek
      if n.ty == TT_NEWLINE then do
        let _ ← eat
        evalBlockLoop fuel terms cb ctx acc
      else if terms.contains n.ty then evalBlockLoop fuel terms cb ctx acc
      else err

/-- `evaluateBlock` -/
def evalBlock (fuel : Nat) (cb : List Stmt → Bool → Bool) (ctx : Ctx) (scope : Scope) : PM (List Stmt) :=
  match fuel with
  | 0 => div
  | fuel + 1 => do
    let b ← eat
    if b.ty != TT_OPENING_CURLY_BRACKET then err else
    let n ← eat
    if n.ty != TT_NEWLINE then err else
    let stmts ← evalBlockContent fuel [TT_CLOSING_CURLY_BRACKET] cb ctx scope
    let e ← eat
    if e.ty != TT_CLOSING_CURLY_BRACKET then err else pure stmts

/-- `evaluateFunctionDefinition` -/
def evalFunctionDefinition (fuel : Nat) (ctx : Ctx) : PM Stmt :=
  match fuel with
  | 0 => div
  | fuel + 1 => do
    let f ← eat
    if !ctx.global then err else
    if f.ty != TT_FUNCTION_DEFINITION then err else
    let nameTok ← eat
    if nameTok.ty != TT_IDENTIFIER then err else
    let s ← getS
    let pfx := s.pfx
    if (ctx.findFunc nameTok.val pfx).isSome then err else
    let o ← peek
    let ctx := { ctx with vars := ctx.vars.filter fun e => e.2.global }
    let params ← (if o.ty == TT_OPENING_ROUND_BRACKET then do
        let _ ← eat
        let ps ← evalParams fuel ctx []
        let c ← eat
        if c.ty != TT_CLOSING_ROUND_BRACKET then err else pure ps
      else pure [])
    let r ← peek
    let multiple := r.ty == TT_OPENING_ROUND_BRACKET
    if multiple then (do let _ ← eat; pure ()) else pure ()
    let rets ← evalReturnTypes fuel multiple []
    let ctx ← ofOpt (ctx.addVars pfx false params)
    let fname := prefixed pfx nameTok.val
    let s ← getS
    setS { s with currFunc := fname }
    let body ← evalBlock fuel (funcBodyCheck rets) ctx .function
    let s ← getS
    setS { s with currFunc := "" }
    pure (.funcDef fname (isPublic nameTok.val) rets params body)

/-- `evaluateIf` -/
def evalIf (fuel : Nat) (ctx : Ctx) : PM Stmt :=
  match fuel with
  | 0 => div
  | fuel + 1 => do
    let t ← peek
    if t.ty != TT_IF then err else
    let _ ← eat
    let c ← evalExpression fuel ctx
    if !(Expr.valueType c).isBool then err else
    let body ← evalBlock fuel (fun _ _ => true) ctx .if_
    evalIfRest fuel ctx c body [] []

def evalIfRest (fuel : Nat) (ctx : Ctx) (c : Expr) (body : List Stmt) (elifs : List (Expr × List Stmt)) (els : List Stmt) : PM Stmt :=
  match fuel with
  | 0 => div
  | fuel + 1 => do
    let t ← peek
    if t.ty != TT_ELSE then pure (.ifS c body elifs els) else
    let _ ← eat
    let n ← peek
    if n.ty != TT_IF then do
      let b ← evalBlock fuel (fun _ _ => true) ctx .if_
      evalIfRest fuel ctx c body elifs b
    else do
      let _ ← eat
      let ec ← evalExpression fuel ctx
      if !(Expr.valueType ec).isBool then err else
      let b ← evalBlock fuel (fun _ _ => true) ctx .if_
      evalIfRest fuel ctx c body (elifs ++ [(ec, b)]) els

/-- `evaluateSwitch` -/
def evalSwitch (fuel : Nat) (ctx : Ctx) : PM Stmt :=
  match fuel with
  | 0 => div
  | fuel + 1 => do
    let sw ← eat
    if sw.ty != TT_SWITCH then err else
    let t ← peek
    let tag ← (if t.ty == TT_OPENING_CURLY_BRACKET then pure (Expr.boolLit true) else evalExpression fuel ctx)
    if (Expr.valueType tag).isSlice then err else
    if (Expr.valueType tag).dt == .unknown || (Expr.valueType tag).dt == .multiple then err else
    let b ← eat
    if b.ty != TT_OPENING_CURLY_BRACKET then err else
    let n ← eat
    if n.ty != TT_NEWLINE then err else
    skipNewlines fuel
    evalCases fuel ctx tag none [] none

def skipNewlines (fuel : Nat) : PM Unit :=
  match fuel with
  | 0 => div
  | fuel + 1 => do
    let t ← peek
    if t.ty == TT_NEWLINE then do let _ ← eat; skipNewlines fuel else pure ()

/-- the case loop; `first` = the first real case (replaces the fake if-branch), `dflt` = default body -/
def evalCases (fuel : Nat) (ctx : Ctx) (tag : Expr) (first : Option (Expr × List Stmt))
    (elifs : List (Expr × List Stmt)) (dflt : Option (List Stmt)) : PM Stmt :=
  match fuel with
  | 0 => div
  | fuel + 1 => do
    let t ← peek
    if t.ty == TT_CLOSING_CURLY_BRACKET then do
      let _ ← eat
      let (c, body) := first.getD (Expr.boolLit false, [])
      pure (.ifS c body elifs (dflt.getD []))
    else do
      let cmp ← (if t.ty == TT_CASE then do
          let _ ← eat
          let e ← evalExpression fuel ctx
          pure (some e)
        else if t.ty == TT_DEFAULT then do let _ ← eat; pure none
        else err)
      let colon ← eat
      if colon.ty != TT_COLON then err else
      let stmts ← evalBlockContent fuel [TT_CASE, TT_DEFAULT, TT_CLOSING_CURLY_BRACKET] (fun _ _ => true) ctx .switch_
      match cmp with
      | some e =>
        if !((Expr.valueType tag).equals (Expr.valueType e)) then err else
        let br := (Expr.compare "==" tag e, stmts)
        match first with
        | none => evalCases fuel ctx tag (some br) elifs dflt
        | some _ => evalCases fuel ctx tag first (elifs ++ [br]) dflt
      | none =>
        match dflt with
        | none => evalCases fuel ctx tag first elifs (some stmts)
        | some _ => err

/-- `evaluateFor` -/
def evalFor (fuel : Nat) (ctx : Ctx) : PM Stmt :=
  match fuel with
  | 0 => div
  | fuel + 1 => do
    let f ← eat
    if f.ty != TT_FOR then err else
    let t0 ← peek
    let t1 ← peekAt 1
    let t2 ← peekAt 2
    let s ← getS
    let pfx := s.pfx
    if t0.ty == TT_IDENTIFIER && (t1.ty == TT_COMMA || (t1.ty == TT_SHORT_INIT_OPERATOR && t2.ty == TT_RANGE)) then do
      let _ ← eat
      if !(isNewVar ctx pfx t0.val) then err else
      let n ← peek
      let valueName ← (if n.ty == TT_COMMA then do
          let _ ← eat
          let v ← eat
          if v.ty != TT_IDENTIFIER then err else
          if !(isNewVar ctx pfx v.val) then err else
          if v.val == t0.val then err else pure v.val
        else pure "")
      let si ← eat
      if si.ty != TT_SHORT_INIT_OPERATOR then err else
      let r ← eat
      if r.ty != TT_RANGE then err else
      let iterable ← evalExpression fuel ctx
      let it := Expr.valueType iterable
      let indexVar : Var := ⟨t0.val, vtInt, false, false⟩
      let elemEval ← (if it.isSlice then pure (Expr.sliceEval iterable (.varEval indexVar) it.dt)
                      else if it.isString then pure (Expr.substr iterable (.varEval indexVar) none)
                      else err)
      let ctx ← ofOpt (ctx.addVars pfx false [indexVar])
      let (ctx, pre) ← (if valueName.length > 0 then do
          let valueVar : Var := ⟨valueName, ⟨it.dt, false⟩, false, false⟩
          let ctx ← ofOpt (ctx.addVars pfx false [valueVar])
          pure (ctx, [Stmt.assign [valueVar] [elemEval]])
        else pure (ctx, []))
      let body ← evalBlock fuel (fun _ _ => true) ctx .for_
      pure (.forS (some (.assign [indexVar] [.intLit 0])) (.compare "<" (.varEval indexVar) (.len iterable))
              (some (incDecStmt indexVar true)) (pre ++ body))
    else do
      let three ← findBefore TT_SEMICOLON [TT_OPENING_CURLY_BRACKET]
      let (ctx, init, cond, incr) ← (
        if t0.ty == TT_OPENING_CURLY_BRACKET then pure (ctx, none, Expr.boolLit true, none)
        else if three then do
          let n ← peek
          let (ctx, init) ← (if n.ty != TT_SEMICOLON then do
              let st ← evalStatement fuel ctx
              match st with
              | .varDef vars _ => do let c ← ofOpt (ctx.addVars pfx false vars); pure (c, some st)
              | .varDefCall vars _ => do let c ← ofOpt (ctx.addVars pfx false vars); pure (c, some st)
              | .assign _ _ => pure (ctx, some st)
              | _ => err
            else pure (ctx, none))
          let sc ← eat
          if sc.ty != TT_SEMICOLON then err else
          let n ← peek
          let cond ← (if n.ty != TT_SEMICOLON then evalExpression fuel ctx else pure (Expr.boolLit true))
          let sc ← eat
          if sc.ty != TT_SEMICOLON then err else
          let n ← peek
          let incr ← (if n.ty != TT_OPENING_CURLY_BRACKET then do
              let st ← evalStatement fuel ctx
              match st with
              | .assign _ _ => pure (some st)
              | _ => err
            else pure none)
          pure (ctx, init, cond, incr)
        else do
          let c ← evalExpression fuel ctx
          pure (ctx, none, c, none))
      if !(Expr.valueType cond).isBool then err else
      let body ← evalBlock fuel (fun _ _ => true) ctx .for_
      pure (.forS init cond incr body)

/-- `evaluateStatement` -/
def evalStatement (fuel : Nat) (ctx : Ctx) : PM Stmt :=
  match fuel with
  | 0 => div
  | fuel + 1 => do
    let t ← peek
    if t.ty == TT_VAR_DEFINITION then evalVarDefinition fuel ctx
    else if t.ty == TT_FUNCTION_DEFINITION then evalFunctionDefinition fuel ctx
    else if t.ty == TT_RETURN then do
      let _ ← eat
      if !ctx.findScope .function then err else
      let vals ← evalValues fuel ctx
      pure (.ret vals)
    else if t.ty == TT_IF then evalIf fuel ctx
    else if t.ty == TT_SWITCH then evalSwitch fuel ctx
    else if t.ty == TT_FOR then evalFor fuel ctx
    else if t.ty == TT_BREAK then do
      let _ ← eat
      if ctx.findScope .for_ || ctx.findScope .switch_ then pure .brk else err
    else if t.ty == TT_CONTINUE then do
      let _ ← eat
      if ctx.findScope .for_ then pure .cont else err
    else if t.ty == TT_PRINT then do
      let args ← evalBuiltin fuel ctx TT_PRINT 0 none
      pure (.print args)
    else if t.ty == TT_WRITE then do
      let args ← evalBuiltin fuel ctx TT_WRITE 2 (some 3)
      match args with
      | [p, d] =>
        if !(Expr.valueType p).isString then err else if !(Expr.valueType d).isString then err
        else pure (.expr (.write p d (some (.boolLit false))))
      | [p, d, a] =>
        if !(Expr.valueType p).isString then err else if !(Expr.valueType d).isString then err
        else if !(Expr.valueType a).isBool then err
        else pure (.expr (.write p d (some a)))
      | _ => pan
    else if t.ty == TT_PANIC then do
      let args ← evalBuiltin fuel ctx TT_PANIC 1 (some 1)
      match args with
      | [e] => pure (.panic e)
      | _ => pan
    else do
      let short ← isShortVarInit
      if short then evalVarDefinition fuel ctx else
      let s ← getS
      let t1 ← peekAt 1
      if t.ty == TT_IDENTIFIER && (t1.ty == TT_INCREMENT_OPERATOR || t1.ty == TT_DECREMENT_OPERATOR) then evalIncDec ctx
      else if t.ty == TT_IDENTIFIER && t1.ty == TT_COMPOUND_ASSIGN_OPERATOR then evalCompoundAssignment fuel ctx
      else if t.ty == TT_IDENTIFIER && (t1.ty == TT_ASSIGN_OPERATOR || t1.ty == TT_COMMA) then evalVarAssignment fuel ctx
      else if t.ty == TT_IDENTIFIER && (match ctx.findVar t.val s.pfx ctx.global with | some v => v.vt.isSlice | none => false) then
        evalSliceAssignment fuel ctx
      else do
        let e ← evalExpression fuel ctx
        -- only calls can be used as statements
        match e with
        | .call _ _ _ | .app _ _ _ | .copy _ _ | .input _ | .read _ => pure (.expr e)
        | _ => err

end

/-! ### files, imports, program, unused-function removal -/

/-- abstract file system: absolute clean paths of regular files with their bytes and name prefixes
    (the prefix is "h" ++ first 7 hex digits of the SHA-256 of the content; supplied by the harness) -/
structure FileSys where
  files : List (String × Bytes × String)
  exeDir : String

def splitPath (p : String) : List String := (p.splitOn "/").filter (· != "")

/-- `filepath.Clean` for absolute paths -/
def cleanAbs (p : String) : String :=
  let parts := (splitPath p).foldl (fun (acc : List String) e =>
    if e == "." then acc else if e == ".." then acc.dropLast else acc ++ [e]) []
  "/" ++ "/".intercalate parts

def isAbs (p : String) : Bool := p.startsWith "/"

def pathJoin (a b : String) : String := cleanAbs (a ++ "/" ++ b)

def pathDir (p : String) : String := cleanAbs ("/" ++ "/".intercalate (splitPath p).dropLast)

/-- `filepath.Base` -/
def pathBase (p : String) : String :=
  match (splitPath p).getLast? with
  | some b => b
  | none => if p.startsWith "/" then "/" else "."

/-- `filepath.Ext`: from the last dot of the last path element -/
def pathExt (p : String) : String :=
  let cs := p.toList
  let rec go (rev : List Char) (acc : List Char) : String :=
    match rev with
    | [] => ""
    | c :: rest =>
      if c == '/' then "" else if c == '.' then String.ofList ('.' :: acc) else go rest (c :: acc)
  go cs.reverse []

def trimSuffix (s suf : String) : String :=
  if suf.length > 0 && s.endsWith suf then (s.dropEnd suf.length).toString else s

def FileSys.read (fs : FileSys) (p : String) : Option (Bytes × String) :=
  (fs.files.find? (·.1 == p)).map (·.2)

/-- `os.Stat` succeeds for regular files and for directories that contain a file -/
def FileSys.stat (fs : FileSys) (p : String) : Bool :=
  fs.files.any fun f => f.1 == p || f.1.startsWith (if p == "/" then "/" else p ++ "/")

structure Parsed where
  body : List Stmt
  usedFuncs : List (String × List String)
  pfx : String

/-- the local `add` of `getUsedFuncs`: append the functions that are not in the list yet -/
def addNewFuncs (acc fs : List String) : List String :=
  fs.foldl (fun a x => if a.contains x then a else a ++ [x]) acc

/-- the work list `for i := 0; i < len(usedFuncs); i++ { add(p.usedFuncs[usedFuncs[i]]) }` -/
def workList (used : List (String × List String)) : Nat → Nat → List String → Option (List String)
  | 0, _, _ => none
  | fuel + 1, i, acc =>
    if h : i < acc.length then workList used fuel (i + 1) (addNewFuncs acc ((assocGet used acc[i]).getD []))
    else some acc

/-- every name of the call graph (the list can never get longer than this) -/
def graphNames (used : List (String × List String)) : List String := used.flatMap fun e => e.1 :: e.2

/-- `getUsedFuncs` -/
def getUsedFuncs (used : List (String × List String)) (start : String) : Option (List String) :=
  match assocGet used start with
  | none => some []
  | some callees =>
    workList used ((graphNames used).length + 2) 0 (addNewFuncs (if start.length > 0 then [start] else []) callees)

def cleanProgram (used : List (String × List String)) (body : List Stmt) : Option (List Stmt) := do
  let keep ← getUsedFuncs used ""
  pure (body.filter fun st => match st with
    | .funcDef name _ _ _ _ => keep.contains name
    | _ => true)

/-- the merge loop of `evaluateImports` -/
def mergeUsed (mine imported : List (String × List String)) : List (String × List String) :=
  imported.foldl (fun acc (fn, callees) =>
    match assocGet acc fn with
    | none => acc ++ [(fn, callees)]
    | some found => assocSet acc fn (callees.foldl (fun l c => if found.contains c then l else l ++ [c]) found)) mine

/-- `evaluateImport`: optional alias, path literal, NEWLINE or EOF -/
def evalImport : PM (String × String) := do
  let t ← eat
  let (alias, t) ← (if t.ty == TT_IDENTIFIER then do let n ← eat; pure (t.val, n) else pure ("", t))
  if t.ty != TT_STRING_LITERAL then err else
  let n ← peek
  if n.ty != TT_NEWLINE && n.ty != TT_EOF then err else
  -- only the newline is consumed: the end-of-file token stays for the statement loop (fix 7299276)
  if n.ty == TT_NEWLINE then do let _ ← eat; pure (alias, t.val) else pure (alias, t.val)

def tokensOf (src : Bytes) : Option (Array Tok) :=
  match Lexer.tokenize src with
  | .ok ts => some (ts.map fun t => { ty := t.ty, val := bytesStr t.val }).toArray
  | _ => none

def fuelFor (ntoks : Nat) : Nat := 40 * ntoks + 200

def skipNL : Nat → PM Unit
  | 0 => div
  | fuel + 1 => do
    let t ← peek
    if t.ty == TT_NEWLINE then do let _ ← eat; skipNL fuel else pure ()

/-- keep the imported statements, registering public definitions (end of `evaluateImports`) -/
def registerImported (ctx : Ctx) (stmts : List Stmt) : Ctx × List Stmt :=
  stmts.foldl (fun (acc : Ctx × List Stmt) st =>
    let (ctx, out) := acc
    match st with
    | .varDef vars _ =>
      let (ctx, ex) := vars.foldl (fun (a : Ctx × Bool) v =>
        let e := (assocGet a.1.vars v.name).isSome
        (if !e && v.pub then { a.1 with vars := assocSet a.1.vars v.name v } else a.1, a.2 && e)) (ctx, true)
      (ctx, if ex then out else out ++ [st])
    | .funcDef name pub rets params _ =>
      let e := (assocGet ctx.funcs name).isSome
      (if !e && pub then { ctx with funcs := assocSet ctx.funcs name ⟨name, rets, params, pub⟩ } else ctx,
       if e then out else out ++ [st])
    | _ => (ctx, out ++ [st])) (ctx, [])

mutual

/-- `Parser.parse(path, imported)`; `depth` bounds the import nesting -/
def parseFile (depth : Nat) (fs : FileSys) (path : String) (imported : Bool) (importing : List String) : PRes Parsed :=
  match depth with
  | 0 => .diverge
  | depth + 1 =>
    if importing.contains path then .error else
    if !fs.stat path then .error else
    match fs.read path with
    | none => .error
    | some (src, hash) =>
      match tokensOf src with
      | none => .error
      | some toks =>
        let pfx := if imported then hash else ""
        let st : PSt := { toks, pfx }
        match evalProgram depth fs path importing (fuelFor toks.size) st with
        | .ok body s =>
          if imported then .ok ⟨body, s.usedFuncs, pfx⟩ s
          else match cleanProgram s.usedFuncs body with
            | some b => .ok ⟨b, s.usedFuncs, pfx⟩ s
            | none => .diverge
        | .error => .error
        | .panic => .panic
        | .diverge => .diverge

/-- `evaluateProgram` -/
def evalProgram (depth : Nat) (fs : FileSys) (path : String) (importing : List String) (fuel : Nat) : PM (List Stmt) :=
  fun s0 =>
  match evalImports depth fs path importing fuel {} s0 with
  | .ok (ctx, imported) s =>
    let ctx := { ctx with imports := assocSet ctx.imports s.pfx s.pfx }
    match evalBlockContent fuel [TT_EOF] (fun _ _ => true) ctx .program s with
    | .ok own s' => .ok (imported ++ own) s'
    | .error => .error
    | .panic => .panic
    | .diverge => .diverge
  | .error => .error
  | .panic => .panic
  | .diverge => .diverge

/-- `evaluateImports` -/
def evalImports (depth : Nat) (fs : FileSys) (path : String) (importing : List String) (fuel : Nat) (ctx : Ctx) : PM (Ctx × List Stmt) :=
  fun s0 =>
  match skipNL fuel s0 with
  | .ok _ s =>
    let t := s.toks.getD s.idx Tok.zero
    if t.ty != TT_IMPORT then .ok (ctx, []) s else
    let s := { s with idx := s.idx + 1 }
    let n := s.toks.getD s.idx Tok.zero
    let multiple := n.ty == TT_OPENING_ROUND_BRACKET
    if multiple then
      let s := { s with idx := s.idx + 1 }
      let nl := s.toks.getD s.idx Tok.zero
      let s := { s with idx := s.idx + 1 }
      if nl.ty != TT_NEWLINE then .error else
      match importLoop depth fs path importing fuel true ctx [] s with
      | .ok (ctx, stmts) s' => let (c, out) := registerImported ctx stmts; .ok (c, out) s'
      | .error => .error
      | .panic => .panic
      | .diverge => .diverge
    else
      match importLoop depth fs path importing fuel false ctx [] s with
      | .ok (ctx, stmts) s' => let (c, out) := registerImported ctx stmts; .ok (c, out) s'
      | .error => .error
      | .panic => .panic
      | .diverge => .diverge
  | .error => .error
  | .panic => .panic
  | .diverge => .diverge

def importLoop (depth : Nat) (fs : FileSys) (path : String) (importing : List String) (fuel : Nat) (multiple : Bool)
    (ctx : Ctx) (acc : List Stmt) : PM (Ctx × List Stmt) :=
  fun s0 =>
  match fuel with
  | 0 => .diverge
  | fuel + 1 =>
  match (if multiple then skipNL fuel s0 else .ok () s0) with
  | .ok _ s =>
    match evalImport s with
    | .ok (alias0, ipath) s =>
      let abs := if isAbs ipath then cleanAbs ipath else pathJoin (pathDir path) ipath
      -- std fallback / alias rules
      let res : Option (String × String) :=
        if !fs.stat abs then
          let noExt := trimSuffix ipath (pathExt ipath)
          let stdPath := pathJoin (pathJoin fs.exeDir "std") (noExt ++ ".tsh")
          some (stdPath, if alias0.length == 0 then pathBase noExt else alias0)
        else if alias0.length == 0 then none
        else some (abs, alias0)
      match res with
      | none => .error
      | some (abs, alias) =>
        match parseFile depth fs abs true (importing ++ [path]) with
        | .ok parsed _ =>
          if (assocGet ctx.imports alias).isSome then .error else
          let ctx := { ctx with imports := assocSet ctx.imports alias parsed.pfx }
          let acc := acc ++ parsed.body
          let s := { s with usedFuncs := mergeUsed s.usedFuncs parsed.usedFuncs }
          match (if multiple then skipNL fuel s else .ok () s) with
          | .ok _ s =>
            let n := s.toks.getD s.idx Tok.zero
            if !multiple then .ok (ctx, acc) s
            else if n.ty == TT_CLOSING_ROUND_BRACKET then .ok (ctx, acc) { s with idx := s.idx + 1 }
            else if n.ty == TT_IDENTIFIER || n.ty == TT_STRING_LITERAL then
              importLoop depth fs path importing fuel multiple ctx acc s
            else .error
          | .error => .error
          | .panic => .panic
          | .diverge => .diverge
        | .error => .error
        | .panic => .panic
        | .diverge => .diverge
    | .error => .error
    | .panic => .panic
    | .diverge => .diverge
  | .error => .error
  | .panic => .panic
  | .diverge => .diverge

end

/-- the main file as `Parse` sees it before the unused functions are removed: the statements of all imported files
    and its own, and the call graph -/
def parseRaw (fs : FileSys) (main : String) : PRes Parsed :=
  if !fs.stat main then .error else
  match fs.read main with
  | none => .error
  | some (src, _) =>
    match tokensOf src with
    | none => .error
    | some toks =>
      let st : PSt := { toks, pfx := "" }
      match evalProgram (fs.files.length + 1) fs main [] (fuelFor toks.size) st with
      | .ok body s => .ok ⟨body, s.usedFuncs, ""⟩ s
      | .error => .error
      | .panic => .panic
      | .diverge => .diverge

/-- `Parser.Parse(path)`: the main file (this is `parseFile` for a file that is not imported, written out), then the
    removal of the unused functions -/
def parse (fs : FileSys) (main : String) : PRes Parsed :=
  match parseRaw fs main with
  | .ok raw s =>
    match cleanProgram raw.usedFuncs raw.body with
    | some b => .ok ⟨b, raw.usedFuncs, ""⟩ s
    | none => .diverge
  | .error => .error
  | .panic => .panic
  | .diverge => .diverge

theorem parse_eq_clean {fs : FileSys} {main : String} {p : Parsed} {s : PSt} (h : parse fs main = .ok p s) :
    ∃ raw, parseRaw fs main = .ok raw s ∧ cleanProgram raw.usedFuncs raw.body = some p.body := by
  unfold parse at h
  split at h
  · split at h
    · cases h
      exact ⟨_, ‹_›, ‹_›⟩
    · cases h
  all_goals cases h

end Tsh.Parser
